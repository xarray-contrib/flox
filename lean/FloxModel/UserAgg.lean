/-
  User-defined aggregations (`flox.Aggregation(name, numpy=…, chunk=…, combine=…, finalize=…, fill_value=…,
  final_fill_value=…, dtypes=…)` passed as `func`).

  `groupby_reduce` treats such an object exactly like a registry entry: `_initialize_aggregation` deep-copies it,
  resolves the sentinel fills for the dtype, appends the count column when `min_count > 0`, and the block /
  combine / finalize pipeline of `Pipeline.lean` runs on the resolved fields.  The model therefore needs nothing
  new except an entry point that takes the resolved fields *explicitly* (the harness obtains them by calling the
  real `_initialize_aggregation(custom_agg, …)`) instead of looking them up in `Generated.initRows`:

  * `RawAgg`            – the resolved fields as text (kernel names, fill values, finalize tag),
  * `RawAgg.resolve`    – text ↦ `Resolved` (`none` when a kernel name / fill is outside the value model),
  * `runResolved`       – the part of `Flox.run` that comes after the table lookup (`C04.builtin_uses_runResolved`: `Flox.run`
                          *is* table lookup followed by `runResolved`, so built-in and user aggregations are executed
                          by the same model code),
  * `specResolved`      – the specification for an aggregation that claims to implement NumPy kernel `k`.

  Only string kernels are modelled (callables as `chunk` / `combine` entries are outside the model); a Python
  `finalize` callable is mapped by the harness to one of the tags understood by `finalizeVals`
  ("none" = first intermediate, "mean" = `a / b`, "second" = second intermediate, "var" / "std").
-/
import FloxModel.Entry

namespace Flox

/-- the fields of an initialised `Aggregation`, as text -/
structure RawAgg where
  name : String
  numpy : List String
  chunk : List String          -- `["None"]` when `chunk=None`
  combine : List String
  interFills : List String     -- already resolved for the dtype (`agg.fill_value["intermediate"]`)
  numpyFills : List String     -- `agg.fill_value["numpy"]`
  finalFill : String           -- `agg.fill_value[agg.name]`; "None" allowed
  userFill : String            -- `agg.fill_value["user"]`; "None" = not given
  minCount : Nat               -- `agg.min_count`
  finalize : String            -- tag
  ddof : Nat
  isArg : Bool
deriving Repr, DecidableEq, Inhabited

def RawAgg.resolve (a : RawAgg) : Option Resolved := do
  let numpy ← a.numpy.mapM (kernelWithDdof a.ddof)
  let chunk ← if a.chunk = ["None"] then some [] else a.chunk.mapM (kernelWithDdof a.ddof)
  let combine ← if a.combine = ["None"] then some [] else a.combine.mapM (kernelWithDdof a.ddof)
  let interFills ← a.interFills.mapM Val.parse?
  let numpyFills ← a.numpyFills.mapM Val.parse?
  let finalFill ← if a.finalFill = "None" then some none else (Val.parse? a.finalFill).map some
  let userFill ← if a.userFill = "None" then some none else (Val.parse? a.userFill).map some
  if !(["none", "mean", "var", "std", "second"].contains a.finalize) then none
  some {
    name := a.name, numpy := numpy, chunk := chunk, combine := combine, interFills := interFills,
    numpyFills := numpyFills, finalFill := finalFill, userFill := userFill, minCount := a.minCount,
    finalize := a.finalize, ddof := a.ddof, isArg := a.isArg }

/-- `groupby_reduce` after `_initialize_aggregation`: factorise the labels, run the plan, return labels and values.
    `fill` is the `fill_value` variable of `groupby_reduce` (used by its final reindex). -/
def runResolved (R : Resolved) (rq : Request) (fill : Option Val) (plan : Plan) (chunks : List Nat)
    (labels : List Key) (vals : List Val) : Outcome :=
  if rq.known then
    let (groups, codes) := factorizeLabels labels rq.expected rq.sort
    let c : Call := { R := R, eng := rq.eng, sort := rq.sort, ngroups := groups.length, knownLabels := true,
                      fillArg := fill, splitEvery := rq.splitEvery }
    let keys : List Key := codes.map fun (i : Int) => some (i : Rat)
    match runKnown c plan rq.floatData chunks keys vals with
    | .ok vs => .ok (groups.map some) vs
    | .error e => .err e
  else
    let c : Call := { R := R, eng := rq.eng, sort := rq.sort, ngroups := 0, knownLabels := false,
                      fillArg := fill, splitEvery := rq.splitEvery }
    match runUnknown c chunks labels vals with
    | .ok (gs, vs) => .ok gs vs
    | .error e => .err e

/-- a user aggregation that chains the chunk stage with a dask graph needs `chunk ≠ None` unless blockwise -/
def chunkless (R : Resolved) (plan : Plan) : Bool :=
  R.chunk.isEmpty && (match plan with | .mapreduce _ => true | .cohorts _ => true | _ => false)

/-- entry point for a user `Aggregation` -/
def runUser (a : RawAgg) (rq : Request) (fill : Option Val) (plan : Plan) (chunks : List Nat)
    (labels : List Key) (vals : List Val) : Outcome :=
  match a.resolve with
  | none => .unsupported "unresolved-aggregation"
  | some R =>
    if chunkless R plan then .err "NotImplementedError"
    else runResolved R rq fill plan chunks labels vals

/-- specification for an aggregation that claims to implement the NumPy kernel `k`: per requested (or present)
    label, `k` on the members; `minCount` / `fill` as documented for `groupby_reduce` -/
def specResolved (k : Kernel) (minCount : Nat) (fill : Option Val) (expected : Option (List Rat))
    (labels : List Key) (vals : List Val) : Outcome :=
  let (groups, codes) := factorizeLabels labels expected true
  match Spec.reduce k minCount fill codes vals groups.length with
  | some vs => .ok (groups.map some) vs
  | none => .err "ValueError"

end Flox
