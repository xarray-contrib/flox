/-
  What `blockVal` (`FloxModel/Blueprint.lean`) stores, by the form of the member list: no member, members that are all
  NaN under a NaN-skipping kernel, at least one valid member.
-/
import FloxModel.Blueprint
import FloxProofs.KernelLemmas

namespace Flox

@[simp] theorem blockVal_nil (k : Kernel) (f : Val) : blockVal k f [] = f := rfl

theorem blockVal_of_noskip (k : Kernel) (f : Val) (ms : List Val) (hk : k.skipsNaN = false)
    (hne : ms ≠ []) : blockVal k f ms = kEval k ms := by
  simp [blockVal, hk, hne]

theorem blockVal_of_allNaN (k : Kernel) (f : Val) (ms : List Val) (hk : k.skipsNaN = true)
    (hne : ms ≠ []) (h : dropNaN ms = []) : blockVal k f ms = allNaNVal k f := by
  simp [blockVal, hk, hne, h]

theorem blockVal_of_valid (k : Kernel) (f : Val) (ms : List Val)
    (h : dropNaN ms ≠ []) : blockVal k f ms = kEval k ms := by
  have hne : ms ≠ [] := by intro h'; subst h'; exact h rfl
  simp [blockVal, hne, h]

/-! ### closed forms: a column whose kernel is `r` (of the valid members) and whose fill is `r []` -/

theorem blockVal_noskip_eq {k : Kernel} {f : Val} {r : List Val → Val} (hk : k.skipsNaN = false) (h0 : r [] = f)
    (hr : ∀ ms, ms ≠ [] → kEval k ms = r ms) (ms : List Val) : blockVal k f ms = r ms := by
  by_cases hne : ms = []
  · rw [hne, h0, blockVal_nil]
  · rw [blockVal_of_noskip k f ms hk hne, hr ms hne]

/-- with ANY fill, as long as the group has a member -/
theorem blockVal_skip_of_ne {k : Kernel} {f : Val} {r : List Val → Val} (hk : k.skipsNaN = true)
    (ha : allNaNVal k f = r []) (hr : ∀ ms, dropNaN ms ≠ [] → kEval k ms = r (dropNaN ms))
    {ms : List Val} (hne : ms ≠ []) : blockVal k f ms = r (dropNaN ms) := by
  by_cases hd : dropNaN ms = []
  · rw [blockVal_of_allNaN k f ms hk hne hd, ha, hd]
  · rw [blockVal_of_valid k f ms hd, hr ms hd]

theorem blockVal_skip_eq {k : Kernel} {f : Val} {r : List Val → Val} (hk : k.skipsNaN = true)
    (ha : allNaNVal k f = f) (h0 : r [] = f) (hr : ∀ ms, dropNaN ms ≠ [] → kEval k ms = r (dropNaN ms))
    (ms : List Val) : blockVal k f ms = r (dropNaN ms) := by
  by_cases hne : ms = []
  · rw [hne, blockVal_nil, dropNaN_nil, h0]
  · exact blockVal_skip_of_ne hk (ha.trans h0.symm) hr hne

theorem blockVal_sum (ms : List Val) : blockVal .sum Val.zero ms = vsum ms :=
  blockVal_noskip_eq (r := vsum) rfl rfl (fun _ _ => rfl) ms

theorem blockVal_nansum (ms : List Val) : blockVal .nansum Val.zero ms = vsum (dropNaN ms) :=
  blockVal_skip_eq (r := vsum) rfl rfl rfl (fun _ _ => rfl) ms

theorem blockVal_prod (ms : List Val) : blockVal .prod Val.one ms = vprod ms :=
  blockVal_noskip_eq (r := vprod) rfl rfl (fun _ _ => rfl) ms

theorem blockVal_nanprod (ms : List Val) : blockVal .nanprod Val.one ms = vprod (dropNaN ms) :=
  blockVal_skip_eq (r := vprod) rfl rfl rfl (fun _ _ => rfl) ms

theorem blockVal_max (ms : List Val) : blockVal .max Val.ninf ms = vmax ms :=
  blockVal_noskip_eq (r := vmax) rfl rfl (fun _ _ => rfl) ms

theorem blockVal_min (ms : List Val) : blockVal .min Val.pinf ms = vmin ms :=
  blockVal_noskip_eq (r := vmin) rfl rfl (fun _ _ => rfl) ms

theorem blockVal_nanmax (ms : List Val) : blockVal .nanmax Val.ninf ms = vmax (dropNaN ms) :=
  blockVal_skip_eq (k := .nanmax) (r := vmax) rfl rfl rfl kEval_nanmax_of_valid ms

theorem blockVal_nanmin (ms : List Val) : blockVal .nanmin Val.pinf ms = vmin (dropNaN ms) :=
  blockVal_skip_eq (k := .nanmin) (r := vmin) rfl rfl rfl kEval_nanmin_of_valid ms

theorem blockVal_nanlen (ms : List Val) : blockVal .nanlen Val.zero ms = vcount (dropNaN ms) :=
  blockVal_skip_eq (r := vcount) rfl rfl Val.ofNat_zero (fun _ _ => rfl) ms

theorem blockVal_sumsq (ms : List Val) :
    blockVal .sumsq Val.zero ms = vsum (ms.map fun x => Val.mul x x) :=
  blockVal_noskip_eq (r := fun ms => vsum (ms.map fun x => Val.mul x x)) rfl rfl (fun _ _ => rfl) ms

theorem blockVal_nansumsq (ms : List Val) :
    blockVal .nansumsq Val.zero ms = vsum ((dropNaN ms).map fun x => Val.mul x x) :=
  blockVal_skip_eq (r := fun ms => vsum (ms.map fun x => Val.mul x x)) rfl rfl rfl (fun _ _ => rfl) ms

theorem blockVal_all (ms : List Val) :
    blockVal .all Val.one ms = Val.ofBool (ms.all Val.truthy) :=
  blockVal_noskip_eq (r := fun ms => Val.ofBool (ms.all Val.truthy)) rfl rfl (fun _ _ => rfl) ms

theorem blockVal_any (ms : List Val) :
    blockVal .any Val.zero ms = Val.ofBool (ms.any Val.truthy) :=
  blockVal_noskip_eq (r := fun ms => Val.ofBool (ms.any Val.truthy)) rfl rfl (fun _ _ => rfl) ms

theorem blockVal_nanfirst (ms : List Val) : blockVal .nanfirst Val.nan ms = firstNonNaN ms :=
  (blockVal_skip_eq (k := .nanfirst) (r := firstNonNaN) rfl rfl rfl
    (fun ms _ => (firstNonNaN_dropNaN ms).symm) ms).trans (firstNonNaN_dropNaN ms)

theorem blockVal_nanlast (ms : List Val) : blockVal .nanlast Val.nan ms = lastNonNaN ms :=
  (blockVal_skip_eq (k := .nanlast) (r := lastNonNaN) rfl rfl rfl
    (fun ms _ => (lastNonNaN_dropNaN ms).symm) ms).trans (lastNonNaN_dropNaN ms)

/-! ### extremes with a fill: the block value is `fill ⊔ kernel`

  `max` / `min` live in the semilattice `(Val.max, -inf)` / `(Val.min, +inf)`; `nanmax` / `nanmin` in the one of the
  NaN-skipping operation, whose identity is NaN.  "The fill lies below the data" is `fill ⊔ x = x`; it holds for the fill
  `∓inf`, for the integer dtype extremes on integer data, and (NaN-skipping kernels) for the fill NaN. -/

/-- `k` is the NaN-propagating extreme kernel (`max` / `min`) of the semilattice `(op, e)` -/
structure Extreme (op : Val → Val → Val) (e : Val) (k : Kernel) : Prop extends Semilat op e where
  kEval_eq : ∀ xs, kEval k xs = xs.foldl op e
  skips : k.skipsNaN = false

/-- `nk` is the NaN-skipping extreme kernel (`nanmax` / `nanmin`) of the semilattice `(op, e)` -/
structure NanExtreme (op : Val → Val → Val) (e : Val) (nk : Kernel) : Prop extends Semilat op e where
  isNaN_op : ∀ a b, (op a b).isNaN = (a.isNaN || b.isNaN)
  isNaN_e : e.isNaN = false
  kEval_eq : ∀ xs, kEval nk xs = if dropNaN xs = [] then Val.nan else (dropNaN xs).foldl op e
  blockVal_eq : ∀ f ms, blockVal nk f ms = if dropNaN ms = [] then f else kEval nk ms

theorem maxExt : Extreme Val.max Val.ninf .max := { Val.maxSemilat with kEval_eq := vmax_eq_foldl, skips := rfl }
theorem minExt : Extreme Val.min Val.pinf .min := { Val.minSemilat with kEval_eq := vmin_eq_foldl, skips := rfl }

/-- from the two equations that tie the kernel to the operation (both hold by unfolding for `nanmax` / `nanmin`) -/
theorem NanExtreme.of_kEval {op : Val → Val → Val} {e : Val} {nk : Kernel} (s : Semilat op e)
    (hnan : ∀ a b, (op a b).isNaN = (a.isNaN || b.isNaN)) (he : e.isNaN = false)
    (hk : ∀ xs, kEval nk xs = if (dropNaN xs).isEmpty then Val.nan else fold1 op e (dropNaN xs))
    (hs : nk.skipsNaN = true) (ha : ∀ f, allNaNVal nk f = f) : NanExtreme op e nk :=
  { s with
    isNaN_op := hnan, isNaN_e := he
    kEval_eq := fun xs => by
      rw [hk]
      by_cases h : dropNaN xs = []
      · simp [h]
      · simp [h, fold1_eq_foldl s.id_left e h]
    blockVal_eq := fun f ms => by
      by_cases hne : ms = []
      · rw [hne, blockVal_nil, dropNaN_nil, if_pos rfl]
      · by_cases h : dropNaN ms = []
        · rw [if_pos h, blockVal_of_allNaN nk f ms hs hne h, ha]
        · rw [if_neg h, blockVal_of_valid nk f ms h] }

theorem nanmaxExt : NanExtreme Val.max Val.ninf .nanmax :=
  .of_kEval Val.maxSemilat Val.isNaN_max rfl (fun _ => rfl) rfl (fun _ => rfl)

theorem nanminExt : NanExtreme Val.min Val.pinf .nanmin :=
  .of_kEval Val.minSemilat Val.isNaN_min rfl (fun _ => rfl) rfl (fun _ => rfl)

theorem Extreme.blockVal_fill {op : Val → Val → Val} {e : Val} {k : Kernel} (x : Extreme op e k) (f : Val)
    (ms : List Val) (h : ∀ v ∈ ms, op f v = v) : blockVal k f ms = op f (kEval k ms) := by
  by_cases hne : ms = []
  · rw [hne, x.kEval_eq, List.foldl_nil, x.id_right, blockVal_nil]
  · rw [blockVal_of_noskip k f ms x.skips hne, x.kEval_eq, x.toSemilat.op_foldl hne h]

namespace NanExtreme
variable {op : Val → Val → Val} {e : Val} {nk : Kernel}

theorem skip (x : NanExtreme op e nk) : Semilat (skipNaN op) Val.nan := skipNaN_semilat x.toSemilat x.isNaN_op

theorem kEval_fold (x : NanExtreme op e nk) (xs : List Val) : kEval nk xs = xs.foldl (skipNaN op) Val.nan :=
  (x.kEval_eq xs).trans (foldl_skipNaN x.toSemilat x.isNaN_op x.isNaN_e xs).symm

theorem kEval_eq_nan_iff (x : NanExtreme op e nk) (xs : List Val) : kEval nk xs = Val.nan ↔ dropNaN xs = [] := by
  rw [x.kEval_eq]
  by_cases hd : dropNaN xs = []
  · simp [hd]
  · have := foldl_isNaN_false x.isNaN_op (dropNaN xs) e x.isNaN_e (fun y hy => (mem_dropNaN.mp hy).2)
    simp only [hd, if_false, iff_false]
    intro h; rw [h] at this; cases this

theorem blockVal_fill (x : NanExtreme op e nk) (f : Val) (ms : List Val)
    (h : ∀ v ∈ ms, v.isNaN = false → skipNaN op f v = v) :
    blockVal nk f ms = skipNaN op f (kEval nk ms) := by
  rw [x.blockVal_eq]
  by_cases hd : dropNaN ms = []
  · rw [if_pos hd, (x.kEval_eq_nan_iff ms).mpr hd, x.skip.id_right]
  · rw [if_neg hd, x.kEval_fold]
    have hle := x.skip.le_foldl f ms (fun v hv => by
      cases hn : v.isNaN
      · exact Or.inr (h v hv hn)
      · exact Or.inl ((Val.isNaN_iff v).mp hn))
    rw [← x.kEval_fold] at hle ⊢
    exact (hle.resolve_left (fun hnan => hd ((x.kEval_eq_nan_iff ms).mp hnan))).symm

end NanExtreme

theorem floatColumns_allNaNVal {k c : Kernel} {f : Val} (h : (k, c, f) ∈ floatColumns) (hs : k.skipsNaN = true) :
    allNaNVal k f = f :=
  (show ∀ t ∈ floatColumns, t.1.skipsNaN = true → allNaNVal t.1 t.2.2 = t.2.2 by decide +kernel) _ h hs

end Flox
