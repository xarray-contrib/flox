/-
  `dropNaN` and the list kernels `vsum`, `vprod`, `vmax`, `vmin`, `firstNonNaN` / `lastNonNaN`, `all` / `any` of
  `FloxModel/Kernels.lean` on `[]`, `x :: xs`, `xs ++ ys` and on the concatenation of parts; that the extremes are members
  which absorb every member; the NaN-skipping variant of an operation.  (`vmean`, `vvar` are the subject of
  `Finalize.lean`, `argBest` of `ArgOrder.lean`.)
-/
import FloxModel.Kernels
import FloxProofs.ValAlgebra

namespace Flox

@[simp] theorem dropNaN_nil : dropNaN [] = [] := rfl

theorem dropNaN_cons (x : Val) (xs : List Val) :
    dropNaN (x :: xs) = if x.isNaN then dropNaN xs else x :: dropNaN xs := by
  cases h : x.isNaN <;> simp [dropNaN, h]

theorem dropNaN_append (xs ys : List Val) : dropNaN (xs ++ ys) = dropNaN xs ++ dropNaN ys := by
  simp [dropNaN]

theorem dropNaN_flatten (parts : List (List Val)) :
    dropNaN parts.flatten = (parts.map dropNaN).flatten := by
  unfold dropNaN
  rw [List.filter_flatten]

theorem dropNaN_idem (xs : List Val) : dropNaN (dropNaN xs) = dropNaN xs := by
  simp [dropNaN]

theorem mem_dropNaN {x : Val} {xs : List Val} : x ∈ dropNaN xs ↔ x ∈ xs ∧ x.isNaN = false := by
  simp [dropNaN]

theorem dropNaN_eq_self {xs : List Val} (h : ∀ x ∈ xs, x.isNaN = false) : dropNaN xs = xs := by
  simp only [dropNaN, List.filter_eq_self]
  intro x hx
  simp [h x hx]

theorem dropNaN_eq_self_of_not_mem (ms : List Val) (h : Val.nan ∉ ms) : dropNaN ms = ms :=
  dropNaN_eq_self fun x hx => by cases x <;> first | rfl | exact absurd hx h

theorem dropNaN_eq_nil_iff {xs : List Val} : dropNaN xs = [] ↔ ∀ x ∈ xs, x.isNaN = true := by
  simp [dropNaN, List.filter_eq_nil_iff]

theorem dropNaN_reverse (xs : List Val) : dropNaN xs.reverse = (dropNaN xs).reverse := by
  simp [dropNaN, List.filter_reverse]

theorem dropNaN_ne_nil_of_mem {xs : List Val} {x : Val} (hx : x ∈ xs) (hn : x.isNaN = false) : dropNaN xs ≠ [] :=
  List.ne_nil_of_mem (mem_dropNaN.mpr ⟨hx, hn⟩)

/-- `nansum` as `sum` of the NaN ↦ 0 array, in numpy_groupies' wrappers and in flox's own engine -/
theorem foldl_map_subst {op : Val → Val → Val} (g : Val → Val) (s : Val) (hr : ∀ a, op a (g s) = a) (a : Val)
    (ms : List Val) :
    (ms.map fun v => g (if v.isNaN then s else v)).foldl op a = ((dropNaN ms).map g).foldl op a := by
  induction ms generalizing a with
  | nil => rfl
  | cons x xs ih =>
    rw [List.map_cons, List.foldl_cons, ih, dropNaN_cons]
    cases hx : x.isNaN <;> simp [hr]

theorem foldl_subst {op : Val → Val → Val} (s : Val) (hr : ∀ a, op a s = a) (a : Val) (ms : List Val) :
    (ms.map fun v => if v.isNaN then s else v).foldl op a = (dropNaN ms).foldl op a := by
  have := foldl_map_subst id s hr a ms
  rwa [List.map_id] at this

@[simp] theorem vsum_nil : vsum [] = Val.zero := rfl
@[simp] theorem vprod_nil : vprod [] = Val.one := rfl

theorem vsum_append (xs ys : List Val) : vsum (xs ++ ys) = Val.add (vsum xs) (vsum ys) :=
  Val.addMon.foldl_append xs ys

theorem vsum_cons (x : Val) (xs : List Val) : vsum (x :: xs) = Val.add x (vsum xs) :=
  Val.addMon.foldl_cons x xs

theorem vsum_nan_mem (xs : List Val) (h : Val.nan ∈ xs) : vsum xs = Val.nan := by
  induction xs with
  | nil => simp at h
  | cons x xs ih =>
    rw [vsum_cons]
    rcases List.mem_cons.mp h with h | h
    · rw [← h]; simp
    · rw [ih h]; simp

/-- dividing by the number of valid members instead of all members is harmless: with a NaN member the sum is NaN -/
theorem div_vsum_vcount_dropNaN (ms : List Val) : Val.div (vsum ms) (vcount (dropNaN ms)) = vmean ms := by
  by_cases h : Val.nan ∈ ms
  · simp [vmean, vsum_nan_mem ms h, Val.div]
  · rw [dropNaN_eq_self_of_not_mem ms h]; rfl

theorem vprod_append (xs ys : List Val) : vprod (xs ++ ys) = Val.mul (vprod xs) (vprod ys) :=
  Val.mulMon.foldl_append xs ys

theorem vprod_cons (x : Val) (xs : List Val) : vprod (x :: xs) = Val.mul x (vprod xs) :=
  Val.mulMon.foldl_cons x xs

/-! ### max / min: `ninf` / `pinf` are the identities, so `fold1` is a monoid fold -/

theorem vmax_eq_foldl (xs : List Val) : vmax xs = xs.foldl Val.max Val.ninf := by
  cases xs with
  | nil => rfl
  | cons x xs => simp [vmax, fold1, Val.max_ninf_left]

theorem vmin_eq_foldl (xs : List Val) : vmin xs = xs.foldl Val.min Val.pinf := by
  cases xs with
  | nil => rfl
  | cons x xs => simp [vmin, fold1, Val.min_pinf_left]

theorem fold1_eq_foldl {op : Val → Val → Val} {e : Val} (hl : ∀ a, op e a = a) (d : Val) {ms : List Val}
    (hne : ms ≠ []) : fold1 op d ms = ms.foldl op e := by
  cases ms with
  | nil => exact absurd rfl hne
  | cons x xs => simp [fold1, hl]

@[simp] theorem vmax_nil : vmax [] = Val.ninf := rfl
@[simp] theorem vmin_nil : vmin [] = Val.pinf := rfl

theorem vmax_append (xs ys : List Val) : vmax (xs ++ ys) = Val.max (vmax xs) (vmax ys) := by
  simp only [vmax_eq_foldl]
  exact Val.maxSemilat.foldl_append xs ys

theorem vmin_append (xs ys : List Val) : vmin (xs ++ ys) = Val.min (vmin xs) (vmin ys) := by
  simp only [vmin_eq_foldl]
  exact Val.minSemilat.foldl_append xs ys

theorem vmax_cons (x : Val) (xs : List Val) : vmax (x :: xs) = Val.max x (vmax xs) := by
  rw [vmax_eq_foldl, vmax_eq_foldl, Val.maxSemilat.foldl_cons]

theorem vmin_cons (x : Val) (xs : List Val) : vmin (x :: xs) = Val.min x (vmin xs) := by
  rw [vmin_eq_foldl, vmin_eq_foldl, Val.minSemilat.foldl_cons]

theorem foldl_isNaN_false {op : Val → Val → Val} (hnan : ∀ a b, (op a b).isNaN = (a.isNaN || b.isNaN))
    (xs : List Val) (a : Val) (ha : a.isNaN = false) (h : ∀ x ∈ xs, x.isNaN = false) :
    (xs.foldl op a).isNaN = false := by
  induction xs generalizing a with
  | nil => exact ha
  | cons x xs ih =>
    exact ih _ (by rw [hnan, ha, h x List.mem_cons_self]; rfl) (fun y hy => h y (List.mem_cons_of_mem _ hy))

theorem vmax_isNaN_false {xs : List Val} (h : ∀ x ∈ xs, x.isNaN = false) :
    (vmax xs).isNaN = false := by
  rw [vmax_eq_foldl]; exact foldl_isNaN_false Val.isNaN_max _ _ rfl h

theorem vmin_isNaN_false {xs : List Val} (h : ∀ x ∈ xs, x.isNaN = false) :
    (vmin xs).isNaN = false := by
  rw [vmin_eq_foldl]; exact foldl_isNaN_false Val.isNaN_min _ _ rfl h

theorem vmax_dropNaN_isNaN (xs : List Val) : (vmax (dropNaN xs)).isNaN = false :=
  vmax_isNaN_false (fun _ hx => (mem_dropNaN.mp hx).2)

theorem vmin_dropNaN_isNaN (xs : List Val) : (vmin (dropNaN xs)).isNaN = false :=
  vmin_isNaN_false (fun _ hx => (mem_dropNaN.mp hx).2)

theorem foldl_sel {op : Val → Val → Val} (hsel : ∀ a b, op a b = a ∨ op a b = b) (xs : List Val) (a : Val) :
    xs.foldl op a = a ∨ xs.foldl op a ∈ xs := by
  induction xs generalizing a with
  | nil => exact Or.inl rfl
  | cons x xs ih =>
    rcases ih (op a x) with h | h
    · rcases hsel a x with e | e
      · exact Or.inl (by rw [List.foldl_cons, h, e])
      · exact Or.inr (by rw [List.foldl_cons, h, e]; exact List.mem_cons_self)
    · exact Or.inr (List.mem_cons_of_mem _ h)

theorem fold1_mem {op : Val → Val → Val} (hsel : ∀ a b, op a b = a ∨ op a b = b) (d : Val) {xs : List Val}
    (hne : xs ≠ []) : fold1 op d xs ∈ xs := by
  cases xs with
  | nil => exact absurd rfl hne
  | cons x xs =>
    show xs.foldl op x ∈ x :: xs
    rcases foldl_sel hsel xs x with h | h
    · rw [h]; exact List.mem_cons_self
    · exact List.mem_cons_of_mem _ h

theorem vmax_mem {xs : List Val} (hne : xs ≠ []) : vmax xs ∈ xs := fold1_mem Val.max_sel _ hne
theorem vmin_mem {xs : List Val} (hne : xs ≠ []) : vmin xs ∈ xs := fold1_mem Val.min_sel _ hne

theorem max_vmax_of_mem {x : Val} {xs : List Val} (h : x ∈ xs) : Val.max x (vmax xs) = vmax xs := by
  rw [vmax_eq_foldl]; exact Val.maxSemilat.op_foldl_of_mem h

theorem min_vmin_of_mem {x : Val} {xs : List Val} (h : x ∈ xs) : Val.min x (vmin xs) = vmin xs := by
  rw [vmin_eq_foldl]; exact Val.minSemilat.op_foldl_of_mem h

theorem vmax_pinf (xs : List Val) (hx : ∀ x ∈ xs, x.isNaN = false) (h : Val.pinf ∈ xs) : vmax xs = Val.pinf := by
  rw [← max_vmax_of_mem h, Val.max_pinf_left (vmax_isNaN_false hx)]

theorem vmin_ninf (xs : List Val) (hx : ∀ x ∈ xs, x.isNaN = false) (h : Val.ninf ∈ xs) : vmin xs = Val.ninf := by
  rw [← min_vmin_of_mem h, Val.min_ninf_left (vmin_isNaN_false hx)]

theorem vmax_all_ninf (xs : List Val) (hne : xs ≠ []) (h : ∀ x ∈ xs, x = Val.ninf) : vmax xs = Val.ninf :=
  h _ (vmax_mem hne)

theorem vmin_all_pinf (xs : List Val) (hne : xs ≠ []) (h : ∀ x ∈ xs, x = Val.pinf) : vmin xs = Val.pinf :=
  h _ (vmin_mem hne)

theorem kEval_nanmax_of_valid (ms : List Val) (h : dropNaN ms ≠ []) : kEval .nanmax ms = vmax (dropNaN ms) := by
  simp [kEval, h]

theorem kEval_nanmin_of_valid (ms : List Val) (h : dropNaN ms ≠ []) : kEval .nanmin ms = vmin (dropNaN ms) := by
  simp [kEval, h]

/-! ### the NaN-skipping variant of an operation (`np.fmax` from `np.maximum`) -/

def skipNaN (op : Val → Val → Val) (a b : Val) : Val := if a.isNaN then b else if b.isNaN then a else op a b

section SkipNaN
variable {op : Val → Val → Val} {e : Val}

theorem skipNaN_semilat (s : Semilat op e) (hnan : ∀ a b, (op a b).isNaN = (a.isNaN || b.isNaN)) :
    Semilat (skipNaN op) Val.nan where
  assoc a b c := by
    cases ha : a.isNaN <;> cases hb : b.isNaN <;> cases hc : c.isNaN <;> simp [skipNaN, ha, hb, hc, hnan, s.assoc]
  id_left a := rfl
  id_right a := by
    cases ha : a.isNaN
    · simp [skipNaN, ha]
    · simp [skipNaN, (Val.isNaN_iff a).mp ha]
  comm a b := by
    cases ha : a.isNaN <;> cases hb : b.isNaN <;> simp [skipNaN, ha, hb, s.comm a b]
    rw [(Val.isNaN_iff a).mp ha, (Val.isNaN_iff b).mp hb]
  idem a := by cases ha : a.isNaN <;> simp [skipNaN, ha, s.idem]

theorem foldl_skipNaN (s : Semilat op e) (hnan : ∀ a b, (op a b).isNaN = (a.isNaN || b.isNaN))
    (he : e.isNaN = false) (xs : List Val) :
    xs.foldl (skipNaN op) Val.nan = if dropNaN xs = [] then Val.nan else (dropNaN xs).foldl op e := by
  induction xs with
  | nil => rfl
  | cons x xs ih =>
    rw [(skipNaN_semilat s hnan).foldl_cons, ih, dropNaN_cons]
    cases hx : x.isNaN
    · have hD : ((dropNaN xs).foldl op e).isNaN = false :=
        foldl_isNaN_false hnan _ _ he (fun y hy => (mem_dropNaN.mp hy).2)
      by_cases hd : dropNaN xs = []
      · simp [skipNaN, hx, hd, s.foldl_cons, s.id_right]
      · simp [skipNaN, hx, hd, hD, s.foldl_cons]
    · simp [skipNaN, hx]

end SkipNaN

theorem vsum_map_ofNat (ns : List Nat) : vsum (ns.map Val.ofNat) = Val.ofNat ns.sum := by
  induction ns with
  | nil => simp [Val.ofNat_zero]
  | cons n ns ih => rw [List.map_cons, vsum_cons, ih, Val.ofNat_add, List.sum_cons]

theorem vsum_map_vcount_eq_flatten (parts : List (List Val)) :
    vsum (parts.map vcount) = vcount parts.flatten := by
  have : parts.map vcount = (parts.map List.length).map Val.ofNat := by
    rw [List.map_map]; rfl
  rw [this, vsum_map_ofNat]
  simp [vcount, List.length_flatten]

@[simp] theorem firstNonNaN_nil : firstNonNaN [] = Val.nan := rfl

theorem firstNonNaN_cons (x : Val) (xs : List Val) :
    firstNonNaN (x :: xs) = if x.isNaN then firstNonNaN xs else x := rfl

theorem firstNonNaN_append (xs ys : List Val) :
    firstNonNaN (xs ++ ys) = if (firstNonNaN xs).isNaN then firstNonNaN ys else firstNonNaN xs := by
  induction xs with
  | nil => simp
  | cons x xs ih =>
    simp only [List.cons_append, firstNonNaN_cons]
    by_cases hx : x.isNaN = true <;> simp [hx, ih]

theorem firstNonNaN_map_flatten (parts : List (List Val)) :
    firstNonNaN (parts.map firstNonNaN) = firstNonNaN parts.flatten := by
  induction parts with
  | nil => rfl
  | cons p ps ih =>
    simp only [List.map_cons, List.flatten_cons, firstNonNaN_cons, firstNonNaN_append, ih]

theorem firstNonNaN_eq_nan_of_allNaN {xs : List Val} (h : dropNaN xs = []) :
    firstNonNaN xs = Val.nan := by
  induction xs with
  | nil => rfl
  | cons x xs ih =>
    rw [dropNaN_cons] at h
    cases hx : x.isNaN <;> simp [hx] at h
    simp [firstNonNaN_cons, hx, ih h]

theorem firstNonNaN_nonNaN (xs : List Val) (h : dropNaN xs ≠ []) : (firstNonNaN xs).isNaN = false := by
  induction xs with
  | nil => exact absurd rfl h
  | cons x xs ih =>
    rw [firstNonNaN_cons]
    by_cases hx : x.isNaN = true
    · simp only [hx, if_true]
      apply ih
      rw [dropNaN_cons] at h
      simpa [hx] using h
    · simp only [hx, Bool.false_eq_true, if_false]

theorem firstNonNaN_dropNaN (xs : List Val) : firstNonNaN (dropNaN xs) = firstNonNaN xs := by
  induction xs with
  | nil => rfl
  | cons x xs ih => cases h : x.isNaN <;> simp [dropNaN_cons, firstNonNaN_cons, h, ih]

theorem lastNonNaN_dropNaN (xs : List Val) : lastNonNaN (dropNaN xs) = lastNonNaN xs := by
  simp [lastNonNaN, ← dropNaN_reverse, firstNonNaN_dropNaN]

theorem lastNonNaN_nonNaN (xs : List Val) (h : dropNaN xs ≠ []) : (lastNonNaN xs).isNaN = false := by
  unfold lastNonNaN
  apply firstNonNaN_nonNaN
  rw [dropNaN_reverse]
  simpa using h

theorem lastNonNaN_map_flatten (parts : List (List Val)) :
    lastNonNaN (parts.map lastNonNaN) = lastNonNaN parts.flatten := by
  unfold lastNonNaN
  rw [List.reverse_flatten, ← firstNonNaN_map_flatten]
  simp [List.map_reverse, Function.comp_def]

theorem lastNonNaN_eq_nan_of_allNaN {xs : List Val} (h : dropNaN xs = []) :
    lastNonNaN xs = Val.nan := by
  unfold lastNonNaN
  apply firstNonNaN_eq_nan_of_allNaN
  rw [dropNaN_reverse, h]; rfl

theorem all_map_flatten (parts : List (List Val)) :
    (parts.map (fun p => Val.ofBool (p.all Val.truthy))).all Val.truthy
      = parts.flatten.all Val.truthy := by
  simp [List.all_flatten, List.all_map, Function.comp_def]

theorem any_map_flatten (parts : List (List Val)) :
    (parts.map (fun p => Val.ofBool (p.any Val.truthy))).any Val.truthy
      = parts.flatten.any Val.truthy := by
  simp [List.any_flatten, List.any_map, Function.comp_def]

theorem kEval_nanmean_allNaN (ms : List Val) (h : dropNaN ms = []) : kEval .nanmean ms = Val.nan := by
  simp [kEval, h, vmean, vsum, vcount, Val.ofNat, Val.zero, Val.div]

theorem kEval_nanvar_allNaN (d : Nat) (ms : List Val) (h : dropNaN ms = []) : kEval (.nanvar d) ms = Val.nan := by
  simp [kEval, h, vvar]

end Flox
