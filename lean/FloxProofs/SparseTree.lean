/-
  `_simple_combine` with `reindex=False` (`simpleCombine R false`): inputs are first reindexed to the sorted union of
  their groups (intermediate fills for absent keys), then reduced pointwise.  On sparse intermediates of aligned
  segments the result is the sparse intermediate of the concatenated segment – for every `split_every`.
-/
import FloxProofs.SparseKeys

namespace Flox

/-- a segment of the data together with the group list of its intermediate -/
abbrev ASeg := List Key × (List Int × List Val)

def Covers (a : ASeg) : Prop := ∀ c ∈ a.2.1, (some ((c : Int) : Rat) : Key) ∈ a.1

def Exact (a : ASeg) : Prop := ∀ κ ∈ a.1, (κ = none ∧ a.2.1 = []) ∨ ∃ c ∈ a.2.1, κ = some ((c : Int) : Rat)

def spNode (R : Resolved) (a : ASeg) : Inter := spInter R.chunk R.interFills a.1 a.2.1 a.2.2

theorem keyMembers_eq_nil_of_not_mem (a : ASeg) (hcov : Covers a) (κ : Key) (hκ : κ ∉ a.1) :
    keyMembers κ a.2.1 a.2.2 = [] := by
  rw [keyMembers_eq_membersK]
  refine Grp.membersK_eq_nil_of_not_mem _ _ _ fun h => ?_
  obtain ⟨c, hc, rfl⟩ := List.mem_map.mp h
  exact hκ (hcov c hc)

theorem reindexInter_spInter (ks : List Kernel) (fills : List Val) (T : List Key) (a : ASeg) (hcov : Covers a) :
    reindexInter fills T (spInter ks fills a.1 a.2.1 a.2.2) = spInter ks fills T a.2.1 a.2.2 :=
  reindexInter_fcols ks fills a.1 T _ (keyMembers_eq_nil_of_not_mem a hcov)

def mergeGroups (Gs : List (List Key)) : List Key :=
  let pres := uniqSorted (presentKeys Gs.flatten)
  if pres.isEmpty then [none] else pres.map some

def mergeSeg (grp : List ASeg) : ASeg :=
  (mergeGroups (grp.map (·.1)), (catC (grp.map (·.2)), catV (grp.map (·.2))))

theorem uniqueGroups_spNodes (R : Resolved) (grp : List ASeg) :
    uniqueGroups (grp.map (spNode R)) = mergeGroups (grp.map (·.1)) := by
  unfold uniqueGroups mergeGroups
  have : (grp.map (spNode R)).flatMap (·.groups) = (grp.map (·.1)).flatten := by
    rw [List.flatMap_def, List.map_map]
    rfl
  rw [this]

theorem mem_mergeGroups_some (r : Rat) (Gs : List (List Key)) :
    some r ∈ mergeGroups Gs ↔ ∃ G ∈ Gs, some r ∈ G := by
  unfold mergeGroups
  simp only
  by_cases hp : (uniqSorted (presentKeys Gs.flatten)).isEmpty = true
  · have hnil : uniqSorted (presentKeys Gs.flatten) = [] := List.isEmpty_iff.mp hp
    simp only [hp, if_true, List.mem_singleton, reduceCtorEq, false_iff]
    rintro ⟨G, hG, hr⟩
    have : r ∈ uniqSorted (presentKeys Gs.flatten) := by
      rw [mem_uniqSorted, mem_presentKeys]
      exact List.mem_flatten.mpr ⟨G, hG, hr⟩
    rw [hnil] at this
    simp at this
  · simp only [hp, Bool.false_eq_true, if_false, List.mem_map, Option.some.injEq, exists_eq_right,
      mem_uniqSorted, mem_presentKeys, List.mem_flatten]

theorem mergeSeg_covers (grp : List ASeg) (hcov : ∀ a ∈ grp, Covers a) : Covers (mergeSeg grp) := by
  intro c hc
  simp only [mergeSeg] at hc ⊢
  obtain ⟨p, hp, hcp⟩ := (mem_catC c _).mp hc
  obtain ⟨a, ha, rfl⟩ := List.mem_map.mp hp
  rw [mem_mergeGroups_some]
  exact ⟨a.1, List.mem_map.mpr ⟨a, ha, rfl⟩, hcov a ha c hcp⟩

theorem not_some_mem_mergeGroups (Gs : List (List Key)) (h : none ∈ mergeGroups Gs) (r : Rat) :
    some r ∉ mergeGroups Gs := by
  unfold mergeGroups at h ⊢
  by_cases hp : (uniqSorted (presentKeys Gs.flatten)).isEmpty = true
  · simp [hp]
  · simp [hp] at h

theorem mergeSeg_exact (grp : List ASeg) (hcov : ∀ a ∈ grp, Covers a) (hex : ∀ a ∈ grp, Exact a) :
    Exact (mergeSeg grp) := by
  intro κ hκ
  simp only [mergeSeg] at hκ ⊢
  cases κ with
  | none =>
    -- `none` is a group only when no key is present at all, and every code is a group
    refine .inl ⟨rfl, List.eq_nil_iff_forall_not_mem.mpr fun c hc => ?_⟩
    exact not_some_mem_mergeGroups _ hκ _ (mergeSeg_covers grp hcov c hc)
  | some r =>
    right
    obtain ⟨G, hG, hr⟩ := (mem_mergeGroups_some r _).mp hκ
    obtain ⟨a, ha, rfl⟩ := List.mem_map.mp hG
    rcases hex a ha (some r) hr with ⟨h, _⟩ | ⟨c, hc, e⟩
    · cases h
    · exact ⟨c, (mem_catC c _).mpr ⟨a.2, List.mem_map.mpr ⟨a, ha, rfl⟩, hc⟩, e⟩

abbrev tNode (R : Resolved) (T : List Key) (p : List Int × List Val) : Inter :=
  spInter R.chunk R.interFills T p.1 p.2

theorem simpleCombine_tNodes (R : Resolved) (T : List Key) (segs : Segs) (hne : segs ≠ []) (hal : Aligned segs)
    (ok : SimpleOK R) :
    simpleCombine R true (segs.map (tNode R T)) = tNode R T (catC segs, catV segs) := by
  have h := simpleCombine_fcols R T T rfl (segs.map fun p κ => keyMembers κ p.1 p.2) (by simpa using hne) ok
  rw [List.map_map] at h
  refine Eq.trans h ?_
  simp only [tNode, spInter, fcols, List.map_map, Function.comp_def, keyMembers_cat _ segs hal]

theorem tree_tNodes (R : Resolved) (T : List Key) (se : Nat)
    (ok : SimpleOK R)
    (segs : Segs) (hne : segs ≠ []) (hal : Aligned segs) :
    simpleCombine R true (treeReduce (simpleCombine R true) se (segs.map (tNode R T)))
      = tNode R T (catC segs, catV segs) :=
  treeReduce_nodes (Q := fun p : List Int × List Val => p.1.length = p.2.length) (cat := catSeg) catSeg_flatten
    (fun grp hne hal => ⟨Aligned.cat_length hal, simpleCombine_tNodes R T grp hne hal ok⟩)
    se segs hne hal

theorem simpleCombine_spNodes (R : Resolved) (grp : List ASeg) (hne : grp ≠ [])
    (hal : Aligned (grp.map (·.2))) (hcov : ∀ a ∈ grp, Covers a)
    (ok : SimpleOK R) :
    simpleCombine R false (grp.map (spNode R)) = spNode R (mergeSeg grp) := by
  have hre : (grp.map (spNode R)).map (reindexInter R.interFills (mergeGroups (grp.map (·.1))))
      = (grp.map (·.2)).map (tNode R (mergeGroups (grp.map (·.1)))) := by
    rw [List.map_map, List.map_map]
    exact List.map_congr_left fun a ha => reindexInter_spInter R.chunk R.interFills _ a (hcov a ha)
  rw [simpleCombine_false R _ (by simpa using hne), uniqueGroups_spNodes, hre,
    simpleCombine_tNodes R _ _ (by simpa using hne) hal ok]
  rfl

/-- what the block stage hands to the tree -/
structure GoodSegs (asegs : List ASeg) (codes : List Int) (vals : List Val) : Prop where
  ne : asegs ≠ []
  aligned : Aligned (asegs.map (·.2))
  covers : ∀ a ∈ asegs, Covers a
  exact : ∀ a ∈ asegs, Exact a
  catC : catC (asegs.map (·.2)) = codes
  catV : catV (asegs.map (·.2)) = vals

/-- the invariant of the tree reduction -/
def IsSp (R : Resolved) (x : Inter) (p : List Int × List Val) : Prop :=
  p.1.length = p.2.length ∧ Covers (x.groups, p) ∧ Exact (x.groups, p) ∧
    x = spInter R.chunk R.interFills x.groups p.1 p.2

theorem simpleCombine_false_groups_ne_nil (R : Resolved) (xs : List Inter) :
    (simpleCombine R false xs).groups ≠ [] := by
  show uniqueGroups xs ≠ []
  unfold uniqueGroups
  simp only
  split
  · exact List.cons_ne_nil _ _
  · next h => simpa [List.isEmpty_iff] using h

theorem IsSp.combine (R : Resolved)
    (ok : SimpleOK R)
    (ps : List (Inter × (List Int × List Val))) (hne : ps ≠ []) (h : ∀ p ∈ ps, IsSp R p.1 p.2) :
    IsSp R (simpleCombine R false (ps.map (·.1))) (catSeg (ps.map (·.2))) := by
  have hnodes : ps.map (·.1) = (ps.map fun q => ((q.1.groups, q.2) : ASeg)).map (spNode R) := by
    rw [List.map_map]
    exact List.map_congr_left fun p hp => (h p hp).2.2.2
  have hseg : (ps.map fun q => ((q.1.groups, q.2) : ASeg)).map (·.2) = ps.map (·.2) := by
    rw [List.map_map]; rfl
  have hcov : ∀ a ∈ ps.map fun q => ((q.1.groups, q.2) : ASeg), Covers a := by
    intro a ha; obtain ⟨p, hp, rfl⟩ := List.mem_map.mp ha; exact (h p hp).2.1
  have hex : ∀ a ∈ ps.map fun q => ((q.1.groups, q.2) : ASeg), Exact a := by
    intro a ha; obtain ⟨p, hp, rfl⟩ := List.mem_map.mp ha; exact (h p hp).2.2.1
  have hal : Aligned (ps.map (·.2)) := by
    intro s hs; obtain ⟨p, hp, rfl⟩ := List.mem_map.mp hs; exact (h p hp).1
  rw [hnodes, simpleCombine_spNodes R _ (by simpa using hne) (hseg ▸ hal) hcov ok]
  have hm : (mergeSeg (ps.map fun q => ((q.1.groups, q.2) : ASeg))).2 = catSeg (ps.map (·.2)) := by
    simp only [mergeSeg, hseg, catSeg]
  refine ⟨Aligned.cat_length hal, ?_, ?_, ?_⟩
  · rw [← hm]; exact mergeSeg_covers _ hcov
  · rw [← hm]; exact mergeSeg_exact _ hcov hex
  · rw [← hm]; rfl

theorem tree_spNodes (R : Resolved) (se : Nat)
    (ok : SimpleOK R)
    (asegs : List ASeg) (codes : List Int) (vals : List Val) (h : GoodSegs asegs codes vals) :
    ∃ G : List Key, Covers (G, (codes, vals)) ∧ Exact (G, (codes, vals)) ∧ G ≠ [] ∧
      simpleCombine R false (treeReduce (simpleCombine R false) se (asegs.map (spNode R)))
        = spInter R.chunk R.interFills G codes vals := by
  have e1 : (asegs.map fun a => (spNode R a, a.2)).map (·.1) = asegs.map (spNode R) := by
    rw [List.map_map]; rfl
  have e2 : catSeg ((asegs.map fun a => (spNode R a, a.2)).map (·.2)) = (codes, vals) := by
    rw [List.map_map, catSeg, ← h.catC, ← h.catV]; rfl
  have key := treeReduce_inv catSeg_flatten (IsSp.combine R ok) se
    (asegs.map fun a => (spNode R a, a.2)) (by simpa using h.ne)
    (by
      intro p hp
      obtain ⟨a, ha, rfl⟩ := List.mem_map.mp hp
      exact ⟨h.aligned a.2 (List.mem_map.mpr ⟨a, ha, rfl⟩), h.covers a ha, h.exact a ha, rfl⟩)
  rw [e1, e2] at key
  obtain ⟨_, hcov, hex, heq⟩ := key
  exact ⟨_, hcov, hex, simpleCombine_false_groups_ne_nil R _, heq⟩

end Flox
