/-
  The tail of `runKnown` (`_finalize_results` + the final reindex), slot by slot: for any list of expected labels
  (`finalize_to_keys`), on an intermediate over all requested labels (`finish_dense`) and on one over the groups that are
  present (`finish_groups`); then `runKnown` for the eager and the map-reduce plans and `runUnknown` as one equation
  each (the cohorts and blockwise equations stand with their plans, `runKnown_cohorts`, `runKnown_blockwise_eq`).
-/
import FloxProofs.Dense
import FloxProofs.MapM
import FloxProofs.Uniq

deriving instance DecidableEq for Except

namespace Flox

/-- turning the `Option` of the specification into the `Except` of the model -/
def optToExcept {α} (o : Option α) : Except String α :=
  match o with
  | some v => .ok v
  | none => .error "ValueError"

theorem optToExcept_error {α} (o : Option α) (e : String) (h : optToExcept o = .error e) :
    e = "ValueError" ∧ o = none := by
  cases o with
  | none => exact ⟨(Except.error.inj h).symm, rfl⟩
  | some v => cases h

theorem mapM_option_toExcept {α β} (f : α → Option β) (l : List α) :
    optToExcept (l.mapM f) = l.mapM (fun a => optToExcept (f a)) := by
  induction l with
  | nil => rfl
  | cons a l ih =>
    rw [mapM_except_cons, ← ih, List.mapM_cons]
    cases f a with
    | none => rfl
    | some b =>
      cases l.mapM f <;> rfl

/-- the user's fill, or flox's `ValueError("Filling is required…")` -/
def fillOrError (uf : Option Val) : Except String Val := optToExcept uf

theorem mask_mapM {α} (l : List α) (a : α → Val) (b : α → Bool) (uf : Option Val) :
    (if ((l.map b).any id) = true then
        (match uf with
          | none => (Except.error "ValueError" : Except String (List Val))
          | some f => .ok (((l.map a).zip (l.map b)).map fun (v, m) => if m then f else v))
      else .ok (l.map a))
      = l.mapM fun x => if b x = true then fillOrError uf else .ok (a x) := by
  have hany : ((l.map b).any id) = true ↔ ∃ x ∈ l, b x = true := by simp
  cases uf with
  | some f =>
    rw [mapM_except_ok _ (fun x => if b x = true then f else a x) l (fun x _ => by split <;> rfl)]
    simp only [List.zip_map', List.map_map]
    split
    · rfl
    · rename_i hn
      refine congrArg Except.ok (List.map_congr_left fun x hx => ?_)
      rw [if_neg fun hb => hn (hany.mpr ⟨x, hx, hb⟩)]
  | none =>
    split
    · rename_i hy
      obtain ⟨x, hx, hb⟩ := hany.mp hy
      refine (mapM_except_error_of_mem _ l "ValueError" (fun y _ e h => ?_) ⟨x, hx, by rw [if_pos hb]; rfl⟩).symm
      split at h
      · exact (optToExcept_error none e h).1
      · cases h
    · rename_i hn
      exact (mapM_except_ok _ a l fun x hx => if_neg fun hb => hn (hany.mpr ⟨x, hx, hb⟩)).symm

theorem finalReindex_eq (c : Call) (bw : Bool) (gs : List Key) (vs : List Val)
    (h : (bw && decide ((gs.filter (· = some (-1))).length > 1)) = false) :
    finalReindex c bw gs vs = optToExcept (reindexCol vs gs (rangeKeys c.ngroups) c.fillArg) := by
  simp only [finalReindex, h, Bool.false_eq_true, if_false]
  cases reindexCol vs gs (rangeKeys c.ngroups) c.fillArg <;> rfl

theorem finalReindex_dropDup (c : Call) (gs : List Key) (vs : List Val)
    (h : (gs.filter (· = some (-1))).length > 1) :
    finalReindex c true gs vs
      = optToExcept (reindexCol (((gs.zip vs).filter fun p => p.1 ≠ some (-1)).map (·.2))
          (((gs.zip vs).filter fun p => p.1 ≠ some (-1)).map (·.1)) (rangeKeys c.ngroups) c.fillArg) := by
  simp only [finalReindex, h, Bool.true_and, decide_true, if_true, List.unzip_eq_map]
  cases reindexCol _ _ (rangeKeys c.ngroups) c.fillArg <;> rfl

theorem finalReindex_range (c : Call) (n : Nat) (vs : List Val) (hn : c.ngroups = n) (hlen : vs.length = n) :
    finalReindex c false (rangeKeys n) vs = .ok vs := by
  rw [finalReindex_eq c false _ _ rfl, hn]
  cases n with
  | zero => rw [List.length_eq_zero_iff.mp hlen]; rfl
  | succ m => rw [reindexCol_self _ _ _ (by simp [rangeKeys, List.range_succ])]; rfl

/-- one output slot after the `min_count` mask -/
def maskedSlot (R : Resolved) (cnt v : Val) : Except String Val :=
  if R.minCount > 0 ∧ countBelow cnt R.minCount = true then fillOrError R.userFill else .ok v

theorem maskedSlot_error (R : Resolved) (cnt v : Val) (e : String) (h : maskedSlot R cnt v = .error e) :
    e = "ValueError" ∧ R.userFill = none ∧ R.minCount > 0 ∧ countBelow cnt R.minCount = true := by
  unfold maskedSlot at h
  split at h
  · rename_i hc
    obtain ⟨he, huf⟩ := optToExcept_error _ e h
    exact ⟨he, huf, hc.1, hc.2⟩
  · cases h

/-- `hG`: with no key and no fill `reindexCol` does not raise but fills with NaN -/
theorem reindexCol_fun (G T : List Key) (φ : Key → Val) (uf : Option Val) (hG : G ≠ [] ∨ uf ≠ none) :
    reindexCol (G.map φ) G T uf = T.mapM (fun κ => if κ ∈ G then some (φ κ) else uf) := by
  by_cases hGe : G = []
  · subst hGe
    obtain ⟨f, rfl⟩ := Option.ne_none_iff_exists'.mp (hG.resolve_left (fun h => h rfl))
    exact (mapM_option_some _ _ _ fun κ _ => rfl).symm
  by_cases hGT : G = T
  · subst hGT
    rw [reindexCol_self _ _ _ hGe]
    refine (mapM_option_some _ _ _ fun κ hκ => ?_).symm
    simp [hκ]
  · rw [reindexCol_lookup _ _ _ _ hGe hGT]
    apply mapM_congr
    intro g _
    cases hl : lookupKey g G with
    | none =>
      have : g ∉ G := (lookupKey_eq_none_iff g G).mp hl
      simp [this]
    | some i =>
      obtain ⟨hi, hgi⟩ := lookupKey_eq_some g G i hl
      have hg : g ∈ G := hgi ▸ List.getElem_mem hi
      simp only [hg, if_true]
      rw [List.getD_eq_getElem?_getD, List.getElem?_eq_getElem (by simpa using hi)]
      simp [hgi]

/-- the value of a result known to be `.ok` (NaN otherwise): with it a list of successful slots is a `map` -/
def exVal {ε} (x : Except ε Val) : Val :=
  match x with
  | .ok v => v
  | .error _ => Val.nan

theorem mapM_except_eq_ok {ε α} (f : α → Except ε Val) (l : List α) (bs : List Val) (h : l.mapM f = .ok bs) :
    bs = l.map (fun a => exVal (f a)) ∧ ∀ a ∈ l, f a = .ok (exVal (f a)) := by
  have hok : ∀ a ∈ l, f a = .ok (exVal (f a)) := by
    intro a ha
    obtain ⟨b, hb⟩ := mapM_except_ok_mem f l bs h a ha
    rw [hb]
    rfl
  rw [mapM_except_ok f _ l hok] at h
  exact ⟨(Except.ok.inj h).symm, hok⟩

/-- `hextra`: `slot` runs over all of `G` before the reindex, so a group that is not requested may raise; then a
    requested slot must raise too. -/
theorem reindex_slots (G T : List Key) (slot : Key → Except String Val) (uf : Option Val) (hG : G ≠ [])
    (herr : ∀ κ e, slot κ = .error e → e = "ValueError")
    (hextra : ∀ κ ∈ G, κ ∉ T → slot κ = .error "ValueError" →
      ∃ τ ∈ T, (if τ ∈ G then slot τ else fillOrError uf) = .error "ValueError") :
    (G.mapM slot >>= fun vals => optToExcept (reindexCol vals G T uf))
      = T.mapM (fun κ => if κ ∈ G then slot κ else fillOrError uf) := by
  cases hm : G.mapM slot with
  | error e =>
    obtain ⟨κ, hκ, hs⟩ := mapM_except_error_mem slot G e hm
    cases herr κ e hs
    refine (mapM_except_error_of_mem _ T "ValueError" (fun τ _ e' h => ?_) ?_).symm
    · split at h
      · exact herr τ e' h
      · exact (optToExcept_error uf e' h).1
    · by_cases hT : κ ∈ T
      · exact ⟨κ, hT, by simp [hκ, hs]⟩
      · exact hextra κ hκ hT hs
  | ok vals =>
    obtain ⟨rfl, hok⟩ := mapM_except_eq_ok slot G vals hm
    refine (congrArg optToExcept (reindexCol_fun G T _ uf (.inl hG))).trans ?_
    rw [mapM_option_toExcept]
    apply mapM_congr
    intro κ _
    split
    · rename_i hκ; exact (hok κ hκ).symm
    · rfl

/-- the `true`: blocks reindexed up front (`reindex.blockwise = True`) -/
theorem finalizeResults_groups_kept (R : Resolved) (x : Inter) (ex : Option (List Key)) (gs : List Key)
    (vs : List Val) (h : finalizeResults R x ex true = .ok (gs, vs)) : gs = x.groups := by
  unfold finalizeResults at h
  simp only at h
  split at h
  · cases h
  · cases ex <;> simp only [Except.ok.injEq, Prod.mk.injEq] at h <;> exact h.1.symm

theorem finalizeResults_masked {α : Type} (R' : Resolved) (x : Inter) (L : List α) (a cntv : α → Val)
    (expected : Option (List Key)) (rb : Bool)
    (hv : finalizeVals R' (if R'.minCount > 0 then x.cols.dropLast else x.cols) = L.map a)
    (hc : R'.minCount > 0 → x.cols.getLastD [] = L.map cntv) :
    finalizeResults R' x expected rb =
      match L.mapM (fun r => maskedSlot R' (cntv r) (a r)) with
      | .error e => .error e
      | .ok vals =>
        match expected, rb with
        | some ex, false =>
          match reindexCol vals x.groups ex R'.userFill with
          | some v => .ok (ex, v)
          | none => .error "ValueError"
        | _, _ => .ok (x.groups, vals) := by
  unfold finalizeResults
  by_cases hmc : R'.minCount > 0
  · simp only [hmc, if_true] at hv ⊢
    rw [hv, hc hmc, List.map_map]
    have hm := mask_mapM L a (fun g => countBelow (cntv g) R'.minCount) R'.userFill
    simp only [maskedSlot, hmc, true_and, Function.comp_def]
    rw [← hm]
    by_cases hany : (L.map (fun g => countBelow (cntv g) R'.minCount)).any id = true
    · simp only [hany, if_true]
      cases R'.userFill with
      | none => rfl
      | some f => rfl
    · simp only [hany, Bool.false_eq_true, if_false]
      rfl
  · simp only [hmc, if_false] at hv ⊢
    rw [hv]
    simp only [maskedSlot, hmc, false_and, if_false, mapM_except_ok _ _ _ fun _ _ => rfl]
    rfl

theorem finish_dense (c : Call) (R' : Resolved) (n : Nat) (x : Inter) (a cntv : Nat → Val)
    (hn : c.ngroups = n) (hg : x.groups = rangeKeys n)
    (hv : finalizeVals R' (if R'.minCount > 0 then x.cols.dropLast else x.cols) = (List.range n).map a)
    (hc : R'.minCount > 0 → x.cols.getLastD [] = (List.range n).map cntv) :
    (match finalizeResults R' x (some (rangeKeys n)) true with
      | .error e => .error e
      | .ok (gs, vs) => finalReindex c false gs vs)
      = (List.range n).mapM fun g => maskedSlot R' (cntv g) (a g) := by
  rw [finalizeResults_masked R' x (List.range n) a cntv (some (rangeKeys n)) true hv hc]
  cases h : (List.range n).mapM fun g => maskedSlot R' (cntv g) (a g) with
  | error e => rfl
  | ok vs =>
    simp only [hg]
    exact finalReindex_range c n vs hn (by simpa using mapM_except_length _ _ _ h)

theorem mem_rangeKeys (κ : Key) (n : Nat) : κ ∈ rangeKeys n ↔ ∃ i, i < n ∧ κ = some ((i : Nat) : Rat) := by
  simp [rangeKeys, eq_comm]

theorem Grp.natCast_rat_eq (g : Nat) : (g : Rat) = ((Int.ofNat g : Int) : Rat) := by
  simp [Rat.intCast_natCast]

theorem num_natCast_rat (g : Nat) : (((g : Nat) : Rat)).num = Int.ofNat g := by
  simp

theorem natKey_ne_m1 (g : Nat) : (some ((g : Nat) : Rat) : Key) ≠ some (-1) := by
  intro e
  have h : (((g : Nat) : Int) : Rat) = ((-1 : Int) : Rat) := by
    rw [Rat.intCast_natCast, Option.some.inj e]; simp [Rat.intCast_neg]
  have := Rat.intCast_inj.mp h
  omega

theorem BW.rangeKeys_ne_m1 (n : Nat) : ∀ g ∈ rangeKeys n, g ≠ some (-1) := by
  intro g hg
  obtain ⟨i, _, rfl⟩ := List.mem_map.mp hg
  exact natKey_ne_m1 i

/-- `hextra` as in `reindex_slots` -/
theorem finalize_to_keys (R' : Resolved) (x : Inter) (a cntv : Key → Val) (T : List Key) (hG : x.groups ≠ [])
    (hv : finalizeVals R' (if R'.minCount > 0 then x.cols.dropLast else x.cols) = x.groups.map a)
    (hc : R'.minCount > 0 → x.cols.getLastD [] = x.groups.map cntv)
    (hextra : ∀ κ ∈ x.groups, κ ∉ T → maskedSlot R' (cntv κ) (a κ) = .error "ValueError" →
      ∃ τ ∈ T, (if τ ∈ x.groups then maskedSlot R' (cntv τ) (a τ) else fillOrError R'.userFill)
        = .error "ValueError") :
    finalizeResults R' x (some T) false
      = (T.mapM fun κ => if κ ∈ x.groups then maskedSlot R' (cntv κ) (a κ) else fillOrError R'.userFill).map
          fun vs => (T, vs) := by
  have key := reindex_slots x.groups T (fun κ => maskedSlot R' (cntv κ) (a κ)) R'.userFill hG
    (fun κ e h => (maskedSlot_error R' _ _ e h).1) hextra
  rw [finalizeResults_masked R' x x.groups a cntv (some T) false hv hc, ← key]
  cases x.groups.mapM (fun κ => maskedSlot R' (cntv κ) (a κ)) with
  | error e => rfl
  | ok vals =>
    simp only [bind, Except.bind]
    cases reindexCol vals x.groups T R'.userFill <;> rfl

/-- the requested slot that raises when an unrequested group does is that of an absent label, for want of a fill. -/
theorem finish_groups (c : Call) (R' : Resolved) (n : Nat) (x : Inter) (a cntv : Key → Val)
    (hn : c.ngroups = n) (hG : x.groups ≠ [])
    (hv : finalizeVals R' (if R'.minCount > 0 then x.cols.dropLast else x.cols) = x.groups.map a)
    (hc : R'.minCount > 0 → x.cols.getLastD [] = x.groups.map cntv)
    (hextra : ∀ κ ∈ x.groups, κ ∉ rangeKeys n → maskedSlot R' (cntv κ) (a κ) = .error "ValueError" →
      ∃ g : Nat, g < n ∧ (some (g : Rat) : Key) ∉ x.groups) :
    (match finalizeResults R' x (some (rangeKeys n)) false with
      | .error e => .error e
      | .ok (gs, vs) => finalReindex c false gs vs)
      = (List.range n).mapM fun (g : Nat) =>
          if (some (g : Rat) : Key) ∈ x.groups then maskedSlot R' (cntv (some (g : Rat))) (a (some (g : Rat)))
          else fillOrError R'.userFill := by
  rw [finalize_to_keys R' x a cntv (rangeKeys n) hG hv hc fun κ hκ hκT hs => by
    obtain ⟨g, hg, habs⟩ := hextra κ hκ hκT hs
    refine ⟨_, (mem_rangeKeys _ n).mpr ⟨g, hg, rfl⟩, ?_⟩
    rw [if_neg habs, (maskedSlot_error R' _ _ _ hs).2.1]
    rfl]
  rw [rangeKeys, mapM_map (m := Except String)]
  generalize hm : (List.range n).mapM (m := Except String) _ = r
  cases r with
  | error e => rfl
  | ok vs => exact finalReindex_range c n vs hn (by simpa using mapM_except_length _ _ _ hm)

theorem runKnown_eager (c : Call) (fd : Bool) (chunks : List Nat) (keys : List Key) (vals : List Val) :
    runKnown c .eager fd chunks keys vals
      = match finalizeResults { c.R with finalize := "none" }
          (chunkReduce c.eng c.R.numpy c.R.numpyFills keys vals (some c.ngroups) c.sort)
          (some (rangeKeys c.ngroups)) true with
        | .error e => .error e
        | .ok (gs, vs) => finalReindex c false gs vs := rfl

theorem knownLabels_of_simpleCombine {c : Call} {fd : Bool} (h : useGroupedCombine c fd = false) :
    c.knownLabels = true := by
  simp only [useGroupedCombine, Bool.or_eq_false_iff, Bool.not_eq_false'] at h
  exact h.1.2

theorem useGroupedCombine_float (c : Call) (hknown : c.knownLabels = true) (harg : c.R.isArg = false) :
    useGroupedCombine c true = false := by
  simp [useGroupedCombine, hknown, harg]

theorem runKnown_mapreduce (c : Call) (rb fd : Bool) (chunks : List Nat) (keys : List Key) (vals : List Val)
    (h : useGroupedCombine c fd = false) :
    runKnown c (.mapreduce rb) fd chunks keys vals
      = match finalizeResults c.R (simpleCombine c.R rb (treeReduce (simpleCombine c.R rb) c.splitEvery
          (blockStage c rb chunks keys vals))) (some (rangeKeys c.ngroups)) rb with
        | .error e => .error e
        | .ok (gs, vs) => finalReindex c false gs vs := by
  simp only [runKnown, h, Bool.false_eq_true, if_false]
  rfl

theorem runKnown_mapreduce_grouped (c : Call) (rb fd : Bool) (chunks : List Nat) (keys : List Key) (vals : List Val)
    (h : useGroupedCombine c fd = true) :
    runKnown c (.mapreduce rb) fd chunks keys vals
      = match finalizeResults c.R (groupedCombine c.R c.eng c.sort (treeReduce (groupedCombine c.R c.eng c.sort)
          c.splitEvery (blockStage c rb chunks keys vals))) (some (rangeKeys c.ngroups)) rb with
        | .error e => .error e
        | .ok (gs, vs) => finalReindex c false gs vs := by
  simp only [runKnown, h, if_true]
  rfl

theorem runUnknown_eq (c : Call) (chunks : List Nat) (keys : List Key) (vals : List Val) :
    runUnknown c chunks keys vals
      = match finalizeResults c.R (groupedCombine c.R c.eng c.sort (treeReduce (groupedCombine c.R c.eng c.sort)
          c.splitEvery (blockStage c false chunks keys vals))) none false with
        | .error e => .error e
        | .ok (gs, vs) =>
          .ok (((gs.zip vs).filter fun p => p.1.isSome).map (·.1), ((gs.zip vs).filter fun p => p.1.isSome).map (·.2)) :=
  rfl

end Flox
