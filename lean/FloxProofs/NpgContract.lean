/-
  The numpy_groupies engine contract in `blockVal` form: behind flox's wrappers (`aggregate_npg.py`: `nansum` / `nanprod`
  by substitution, `_len` with its fill patch) every slot of `npgGrouped k` is `blockVal k fill` of the group's members,
  for every kernel that is not an arg-reduction; for `nanlen` and `nansum_of_squares` only with the fill 0 (an all-NaN
  group looks absent to numpy_groupies and gets the fill, while `blockVal` stores 0).
-/
import FloxModel.Pipeline
import FloxModel.Engines
import FloxProofs.BlockVal
import FloxProofs.Members

namespace Flox

theorem kEval_dropNaN (k : Kernel) (hk : k.skipsNaN = true) (hna : isArgKernel k = false) (xs : List Val) :
    kEval k (dropNaN xs) = kEval k xs := by
  -- kernel by kernel: a NaN-skipping kernel is a function of `dropNaN xs` (idempotent), `nanfirst` / `nanlast` by
  -- `firstNonNaN_dropNaN` / `lastNonNaN_dropNaN`; the other kernels contradict `hk` or `hna`
  cases k <;> simp_all [Kernel.skipsNaN, isArgKernel, kEval, dropNaN_idem, firstNonNaN_dropNaN,
    lastNonNaN_dropNaN]

theorem vcount_eq_zero (xs : List Val) : vcount xs = Val.zero ↔ xs = [] := by
  simp [vcount, Val.ofNat, Val.zero, List.length_eq_zero_iff]

/-- the left-hand side is a slot of `npgAggregate` (NaN dropped before grouping) -/
theorem aggSlot_eq_blockVal (k : Kernel) (f : Val) (hna : isArgKernel k = false)
    (hf : k.skipsNaN = true → allNaNVal k f = f) (ms : List Val) :
    (if (if k.skipsNaN then dropNaN ms else ms).isEmpty then f
      else kEval k (if k.skipsNaN then dropNaN ms else ms)) = blockVal k f ms := by
  unfold blockVal
  by_cases hs : k.skipsNaN = true
  · simp only [hs, if_true, Bool.true_and]
    by_cases hm : ms.isEmpty = true
    · have : ms = [] := List.isEmpty_iff.mp hm
      subst this
      simp [dropNaN]
    · by_cases hd : (dropNaN ms).isEmpty = true
      · simp [hm, hd, hf hs]
      · simp [hm, hd, kEval_dropNaN k hs hna]
  · simp [hs]

/-- `nansum` / `nanprod` as the wrappers compute them: `sum` / `prod` of the array with NaN replaced by the identity -/
theorem subst_slot {op : Val → Val → Val} {e : Val} {k nk : Kernel} (hk : ∀ xs, kEval k xs = xs.foldl op e)
    (hnk : ∀ xs, kEval nk xs = (dropNaN xs).foldl op e) (hs : nk.skipsNaN = true) (ha : ∀ f, allNaNVal nk f = e)
    (hr : ∀ a, op a e = a) (f : Val) (ms : List Val) :
    (if (ms.map fun v => if v.isNaN then e else v).isEmpty then f
      else kEval k (ms.map fun v => if v.isNaN then e else v)) = blockVal nk f ms := by
  by_cases hm : ms = []
  · simp [hm]
  · rw [if_neg (by simpa using hm),
      blockVal_skip_of_ne (r := fun xs => xs.foldl op e) hs (ha f) (fun ms _ => hnk ms) hm, hk]
    exact foldl_subst e hr e ms

theorem nanlen_slot (ms : List Val) :
    (if (if (dropNaN ms).isEmpty then Val.zero else kEval .nanlen (dropNaN ms)) = Val.zero then Val.zero
      else (if (dropNaN ms).isEmpty then Val.zero else kEval .nanlen (dropNaN ms)))
      = blockVal .nanlen Val.zero ms := by
  simp only [blockVal, kEval, Kernel.skipsNaN, Bool.true_and, allNaNVal, dropNaN_idem]
  by_cases hm : ms = []
  · simp [hm, dropNaN]
  · by_cases hd : dropNaN ms = []
    · simp [hm, hd]
    · simp [hm, hd, vcount_eq_zero]

theorem len_slot (f : Val) (ms : List Val) :
    (if (if ms.isEmpty then Val.zero else kEval .len ms) = Val.zero then f
      else (if ms.isEmpty then Val.zero else kEval .len ms)) = blockVal .len f ms := by
  simp only [blockVal, kEval, Kernel.skipsNaN, Bool.false_and]
  by_cases hm : ms = []
  · simp [hm]
  · simp [hm, vcount_eq_zero]

theorem npgGrouped_eq_blockVal (k : Kernel) (f : Val) (codes : List Int) (vals : List Val) (size : Nat)
    (hna : isArgKernel k = false) (hz : (k = .nanlen ∨ k = .nansumsq) → f = Val.zero) :
    npgGrouped k codes vals size f
      = (List.range size).map fun (g : Nat) => blockVal k f (members (Int.ofNat g) codes vals) := by
  have generic : ∀ k' : Kernel, isArgKernel k' = false → (k'.skipsNaN = true → allNaNVal k' f = f) →
      npgAggregate k' codes vals size f
        = (List.range size).map fun (g : Nat) => blockVal k' f (members (Int.ofNat g) codes vals) := by
    intro k' h1 h2
    unfold npgAggregate
    apply List.map_congr_left
    intro g _
    exact aggSlot_eq_blockVal k' f h1 h2 _
  cases k with
  | nansum =>
    simp only [npgGrouped, npgAggregate]
    apply List.map_congr_left
    intro g _
    simp only [Kernel.skipsNaN, Bool.false_eq_true, if_false, members_map]
    exact subst_slot (k := .sum) (nk := .nansum) (fun _ => rfl) (fun _ => rfl) rfl (fun _ => rfl) Val.add_zero_right f _
  | nanprod =>
    simp only [npgGrouped, npgAggregate]
    apply List.map_congr_left
    intro g _
    simp only [Kernel.skipsNaN, Bool.false_eq_true, if_false, members_map]
    exact subst_slot (k := .prod) (nk := .nanprod) (fun _ => rfl) (fun _ => rfl) rfl (fun _ => rfl) Val.mul_one_right f _
  | nanlen =>
    have hf : f = Val.zero := hz (Or.inl rfl)
    subst hf
    simp only [npgGrouped, npgAggregate, List.map_map]
    apply List.map_congr_left
    intro g _
    simp only [Function.comp, Kernel.skipsNaN, if_true]
    exact nanlen_slot _
  | len =>
    simp only [npgGrouped, npgAggregate, List.map_map]
    apply List.map_congr_left
    intro g _
    simp only [Function.comp, Kernel.skipsNaN, Bool.false_eq_true, if_false]
    exact len_slot f _
  | nansumsq =>
    have hf : f = Val.zero := hz (Or.inr rfl)
    subst hf
    exact generic _ rfl (fun _ => rfl)
  | argmax => simp [isArgKernel] at hna
  | argmin => simp [isArgKernel] at hna
  | nanargmax => simp [isArgKernel] at hna
  | nanargmin => simp [isArgKernel] at hna
  | _ => exact generic _ rfl (fun _ => rfl)

end Flox
