/-
  Folds of a monoid and of a semilattice (commutative idempotent monoid), for any carrier.
  `Mon` is what the chunk / combine decomposition of sums and products rests on; `Semilat.law` is the decomposition of
  extremes with a fill that lies below the data.
-/

namespace Flox

structure Mon {α : Type} (op : α → α → α) (e : α) : Prop where
  assoc : ∀ a b c, op (op a b) c = op a (op b c)
  id_left : ∀ a, op e a = a
  id_right : ∀ a, op a e = a

namespace Mon
variable {α : Type} {op : α → α → α} {e : α}

theorem foldl_eq (m : Mon op e) (xs : List α) (a : α) : xs.foldl op a = op a (xs.foldl op e) := by
  induction xs generalizing a with
  | nil => exact (m.id_right a).symm
  | cons x xs ih => rw [List.foldl_cons, List.foldl_cons, ih, ih (op e x), m.id_left, m.assoc]

theorem foldl_cons (m : Mon op e) (x : α) (xs : List α) : (x :: xs).foldl op e = op x (xs.foldl op e) := by
  rw [List.foldl_cons, m.id_left, m.foldl_eq]

theorem foldl_append (m : Mon op e) (xs ys : List α) :
    (xs ++ ys).foldl op e = op (xs.foldl op e) (ys.foldl op e) := by
  rw [List.foldl_append, m.foldl_eq]

theorem foldl_flatten (m : Mon op e) (parts : List (List α)) :
    (parts.map fun p => p.foldl op e).foldl op e = parts.flatten.foldl op e := by
  induction parts with
  | nil => rfl
  | cons p ps ih => rw [List.map_cons, m.foldl_cons, ih, List.flatten_cons, m.foldl_append]

end Mon

structure Semilat {α : Type} (op : α → α → α) (e : α) : Prop extends Mon op e where
  comm : ∀ a b, op a b = op b a
  idem : ∀ a, op a a = a

namespace Semilat
variable {α : Type} {op : α → α → α} {e : α}

theorem foldl_map_op (s : Semilat op e) (f : α) {l : List α} (hne : l ≠ []) :
    (l.map (op f)).foldl op e = op f (l.foldl op e) := by
  induction l with
  | nil => exact absurd rfl hne
  | cons x xs ih =>
    rw [List.map_cons, s.foldl_cons, s.foldl_cons]
    cases xs with
    | nil => rw [List.map_nil, List.foldl_nil, s.id_right, s.id_right]
    | cons y ys =>
      -- (f ⊔ x) ⊔ (f ⊔ v) = f ⊔ (x ⊔ v)
      rw [ih (List.cons_ne_nil _ _), s.assoc, ← s.assoc x f, s.comm x f, s.assoc f x, ← s.assoc f f, s.idem]

theorem law (s : Semilat op e) (f : α) {parts : List (List α)} (hne : parts ≠ []) :
    (parts.map fun p => op f (p.foldl op e)).foldl op e = op f (parts.flatten.foldl op e) := by
  rw [← s.foldl_flatten, ← s.foldl_map_op f (by simpa using hne), List.map_map]
  rfl

theorem op_foldl_of_mem (s : Semilat op e) {x : α} {xs : List α} (h : x ∈ xs) :
    op x (xs.foldl op e) = xs.foldl op e := by
  induction xs with
  | nil => cases h
  | cons y ys ih =>
    rw [s.foldl_cons]
    rcases List.mem_cons.mp h with rfl | h
    · rw [← s.assoc, s.idem]
    · rw [← s.assoc, s.comm x y, s.assoc, ih h]

theorem op_foldl (s : Semilat op e) {f : α} {xs : List α} (hne : xs ≠ []) (h : ∀ x ∈ xs, op f x = x) :
    op f (xs.foldl op e) = xs.foldl op e := by
  cases xs with
  | nil => exact absurd rfl hne
  | cons x xs => rw [s.foldl_cons, ← s.assoc, h x List.mem_cons_self]

theorem le_foldl (s : Semilat op e) (f : α) (xs : List α) (h : ∀ x ∈ xs, x = e ∨ op f x = x) :
    xs.foldl op e = e ∨ op f (xs.foldl op e) = xs.foldl op e := by
  induction xs with
  | nil => exact Or.inl rfl
  | cons x xs ih =>
    rw [s.foldl_cons]
    rcases h x List.mem_cons_self with rfl | hx
    · rw [s.id_left]; exact ih (fun y hy => h y (List.mem_cons_of_mem _ hy))
    · right; rw [← s.assoc, hx]

end Semilat

end Flox
