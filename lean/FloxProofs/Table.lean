/-
  Intermediates as tables of block values.

  Every intermediate of an ordinary reduction has the form `⟨G, fcols ks fills L m⟩`: slot `a ∈ L` of column `(k, f)`
  holds `blockVal k f (m a)` for a member list `m a` (the dense and the sparse block columns are instances by `rfl`).
  One `_simple_combine` concatenates the member lists slot by slot, `reindex_intermediates` changes the slot list
  (a new slot gets the fill, which is the block value of no member); which data the lists are members of plays no role.
-/
import FloxProofs.Finish
import FloxProofs.Columns

namespace Flox

theorem colAt_fcols {α} (ks : List Kernel) (fills : List Val) (G : List Key) (L : List α) (m : α → List Val)
    (j gi : Nat) (hj : j < ks.length) (hk : ks.length = fills.length) (hgi : gi < L.length) :
    (colAt { groups := G, cols := fcols ks fills L m } j).getD gi Val.nan
      = blockVal ks[j] (fills[j]'(by omega)) (m L[gi]) := by
  have hz : j < (ks.zip fills).length := by simp only [List.length_zip]; omega
  simp only [colAt, fcols, List.getD_eq_getElem?_getD, List.getElem?_map]
  rw [List.getElem?_eq_getElem hz]
  simp [hgi]

theorem simpleCombine_common (R : Resolved) (T : List Key) (xs : List Inter) (hne : xs ≠ [])
    (hg : ∀ x ∈ xs, x.groups = T) :
    simpleCombine R true xs =
      { groups := T,
        cols := R.combine.mapIdx fun j c =>
          (List.range T.length).map fun gi => combineVal c (xs.map fun x => (colAt x j).getD gi Val.nan) } := by
  cases xs with
  | nil => exact absurd rfl hne
  | cons x xs =>
    have hx : x.groups = T := hg x (by simp)
    simp [simpleCombine, hx, combineVal]

/-- what `_simple_combine` needs of a blueprint -/
structure SimpleOK (R : Resolved) : Prop where
  hc : R.chunk.length = R.combine.length
  hf : R.chunk.length = R.interFills.length
  hlaw : ∀ j (hj : j < R.chunk.length), Law R.chunk[j] (R.combine[j]'(by omega)) (R.interFills[j]'(by omega))

theorem simpleCombine_fcols {α} (R : Resolved) (G : List Key) (L : List α) (hGL : G.length = L.length)
    (ms : List (α → List Val)) (hne : ms ≠ [])
    (ok : SimpleOK R) :
    simpleCombine R true (ms.map fun m => { groups := G, cols := fcols R.chunk R.interFills L m })
      = { groups := G, cols := fcols R.chunk R.interFills L fun a => (ms.map (· a)).flatten } := by
  obtain ⟨hc, hf, hlaw⟩ := ok
  rw [simpleCombine_common R G _ (by simpa using hne)
    (by intro x hx; obtain ⟨m, _, rfl⟩ := List.mem_map.mp hx; rfl)]
  refine congrArg (Inter.mk _) ?_
  unfold fcols
  apply List.ext_getElem
  · simp only [List.length_mapIdx, List.length_map, List.length_zip]; omega
  · intro j h1 h2
    have hj : j < R.chunk.length := by simp only [List.length_mapIdx] at h1; omega
    simp only [List.getElem_mapIdx, List.getElem_map, List.getElem_zip]
    refine map_range_eq_map hGL fun gi hgi => ?_
    rw [← hlaw j hj _ (by simpa using hne)]
    refine congrArg (combineVal _) ?_
    simp only [List.map_map]
    exact List.map_congr_left fun m _ => colAt_fcols R.chunk R.interFills G L m j gi hj hf hgi

theorem simpleCombine_false (R : Resolved) (xs : List Inter) (hne : xs ≠ []) :
    simpleCombine R false xs = simpleCombine R true (xs.map (reindexInter R.interFills (uniqueGroups xs))) := by
  cases xs with
  | nil => exact absurd rfl hne
  | cons x xs => simp [simpleCombine, reindexInter]

theorem reindexInter_fcols (ks : List Kernel) (fills : List Val) (G T : List Key) (m : Key → List Val)
    (hm : ∀ κ, κ ∉ G → m κ = []) :
    reindexInter fills T { groups := G, cols := fcols ks fills G m } = { groups := T, cols := fcols ks fills T m } := by
  unfold reindexInter fcols
  refine congrArg (Inter.mk _) ?_
  apply List.ext_getElem
  · simp only [List.length_map, List.length_zip]; omega
  · intro j h1 h2
    have hjk : j < ks.length ∧ j < fills.length := by
      simp only [List.length_map, List.length_zip] at h2; omega
    have hj1 := hjk.1
    have hj2 := hjk.2
    simp only [List.getElem_map, List.getElem_zip]
    rw [reindexCol_fun G T (fun κ => blockVal ks[j] fills[j] (m κ)) (some fills[j]) (.inr (by simp)),
      mapM_option_some _ (fun κ => blockVal ks[j] fills[j] (m κ)) T]
    · rfl
    · intro κ _
      split
      · rfl
      · rename_i hκ
        rw [hm κ hκ]
        rfl

end Flox
