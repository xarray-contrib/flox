/-
  Finalizers of the chunked (map-reduce) path agree with the eager two-pass NumPy kernels, in exact arithmetic.

    mean :  sum / count                                   = np.mean
    var  :  (sumsq - sum*sum/count) / (count - ddof)      = vvar ddof        (NaN where count ≤ ddof)

  `vvar ddof` is `np.var(ddof)` where `count > ddof`; for `count ≤ ddof` it is NaN, flox's convention, where NumPy
  divides by `count - ddof ≤ 0`.

  The left-hand sides are built from the per-group intermediates `blockVal k 0 ms` that the block stage stores
  (`Blueprint.lean`); the right-hand sides are the specification kernels `kEval` (`Kernels.lean`).
  All theorems hold for EVERY member list (also the empty one, also with NaN / ±inf members).  For `var` both sides are
  NaN as soon as a member is not finite; for `mean` a NaN member makes both sides NaN, and with ±inf members both sides
  are the same quotient `sum / count` (±inf, or NaN when both infinities occur).
-/
import FloxModel.Pipeline
import FloxProofs.BlockVal

namespace Flox

/-! ### the per-slot body of `finalizeVals` for "var" -/

def onepass (ddof : Nat) (sq s c : Val) : Val :=
  let r := Val.div (Val.sub sq (Val.div (Val.mul s s) c)) (Val.sub c (Val.ofNat ddof))
  match c with | .fin q => if q ≤ (ddof : Rat) then Val.nan else r | _ => r

theorem finalizeVals_var (R : Resolved) (cols : List (List Val)) (h : R.finalize = "var") :
    finalizeVals R cols =
      ((cols.getD 0 []).zip ((cols.getD 1 []).zip (cols.getD 2 []))).map
        fun (sq, s, c) => onepass R.ddof sq s c := by
  unfold finalizeVals
  rw [h]
  rfl

theorem finalizeVals_std (R : Resolved) (cols : List (List Val)) (h : R.finalize = "std") :
    finalizeVals R cols =
      ((cols.getD 0 []).zip ((cols.getD 1 []).zip (cols.getD 2 []))).map
        fun (sq, s, c) => onepass R.ddof sq s c := by
  unfold finalizeVals
  rw [h]
  rfl

theorem finalizeVals_mean (R : Resolved) (cols : List (List Val)) (h : R.finalize = "mean") :
    finalizeVals R cols = List.zipWith Val.div (cols.getD 0 []) (cols.getD 1 []) := by
  unfold finalizeVals
  rw [h]
  rfl

theorem vsum_fin (l : List Rat) : vsum (l.map Val.fin) = Val.fin l.sum := by
  induction l with
  | nil => rfl
  | cons x xs ih => simp [vsum_cons, ih, Val.add]

theorem vsum_map_fin (f : Rat → Rat) (l : List Rat) :
    vsum (l.map fun x => Val.fin (f x)) = Val.fin (l.map f).sum := by
  rw [← vsum_fin, List.map_map]; rfl

theorem sum_dev (m : Rat) (l : List Rat) :
    (l.map fun x => (x - m) * (x - m)).sum =
      (l.map fun x => x * x).sum - 2 * m * l.sum + (l.length : Rat) * (m * m) := by
  induction l with
  -- after unfolding the sum (and substituting the induction hypothesis) both cases are ring identities over `Rat`
  | nil => simp; grind
  | cons x xs ih =>
    simp only [List.map_cons, List.sum_cons, ih, List.length_cons, Rat.natCast_add]
    grind

theorem sum_dev_mean (l : List Rat) (hn : (l.length : Rat) ≠ 0) :
    (l.map fun x => (x - l.sum / (l.length : Rat)) * (x - l.sum / (l.length : Rat))).sum =
      (l.map fun x => x * x).sum - l.sum * l.sum / (l.length : Rat) := by
  rw [sum_dev]
  generalize (l.length : Rat) = n at hn
  -- with S = Σx and μ = S / n:  - 2·μ·S + n·μ² = - S²/n, a field identity for n ≠ 0
  grind

theorem exists_rat_list (xs : List Val) (h : ∀ x ∈ xs, ∃ q, x = Val.fin q) :
    ∃ l : List Rat, xs = l.map Val.fin := by
  induction xs with
  | nil => exact ⟨[], rfl⟩
  | cons x xs ih =>
    obtain ⟨q, rfl⟩ := h x (by simp)
    obtain ⟨l, rfl⟩ := ih (fun y hy => h y (by simp [hy]))
    exact ⟨q :: l, rfl⟩

theorem onepass_fin (ddof : Nat) (l : List Rat) :
    onepass ddof (vsum ((l.map Val.fin).map fun x => Val.mul x x)) (vsum (l.map Val.fin))
        (vcount (l.map Val.fin)) = vvar ddof (l.map Val.fin) := by
  have hsq : vsum ((l.map Val.fin).map fun x => Val.mul x x) = Val.fin (l.map fun x => x * x).sum := by
    rw [← vsum_map_fin, List.map_map]; rfl
  rw [hsq, vsum_fin]
  simp only [onepass, vvar, vcount, Val.ofNat, List.length_map, Rat.natCast_le_natCast]
  by_cases hle : l.length ≤ ddof
  · simp [hle]
  · simp only [hle, if_false]
    have hlt : ddof < l.length := by omega
    have hn0 : (l.length : Rat) ≠ 0 := by
      have : (0 : Rat) < (l.length : Rat) := Rat.natCast_pos.mpr (by omega)
      grind
    have hnd : (l.length : Rat) + -(ddof : Rat) ≠ 0 := by
      have : (ddof : Rat) < (l.length : Rat) := Rat.natCast_lt_natCast.mpr hlt
      grind
    have hcast : (((l.length : Int) - (ddof : Int) : Int) : Rat) = (l.length : Rat) - (ddof : Rat) := by
      rw [Rat.intCast_sub, Rat.intCast_natCast, Rat.intCast_natCast]
    have hmean : vmean (l.map Val.fin) = Val.fin (l.sum / (l.length : Rat)) := by
      simp [vmean, vsum_fin, vcount, Val.ofNat, Val.div, hn0]
    have hdevs : (l.map Val.fin).map (fun x =>
          Val.mul (Val.sub x (Val.fin (l.sum / (l.length : Rat)))) (Val.sub x (Val.fin (l.sum / (l.length : Rat)))))
        = l.map fun x => Val.fin ((x - l.sum / (l.length : Rat)) * (x - l.sum / (l.length : Rat))) := by
      rw [List.map_map]
      apply List.map_congr_left
      intro x _
      simp [Val.sub, Val.neg, Val.add, Val.mul, Rat.sub_eq_add_neg]
    rw [hmean, hdevs, vsum_map_fin, sum_dev_mean l hn0]
    simp only [Val.ofInt, hcast]
    simp [Val.div, Val.sub, Val.neg, Val.add, Val.mul, hn0, hnd, Rat.sub_eq_add_neg]

theorem isFinite_vsum (xs : List Val) : (vsum xs).isFinite = xs.all Val.isFinite := by
  induction xs with
  | nil => rfl
  | cons x xs ih => rw [vsum_cons, Val.isFinite_add, ih, List.all_cons]

theorem vsum_nonfin (xs : List Val) (h : ∃ x ∈ xs, x.isFinite = false) : (vsum xs).isFinite = false := by
  obtain ⟨x, hx, hxf⟩ := h
  rw [isFinite_vsum, List.all_eq_false]
  exact ⟨x, hx, by simp [hxf]⟩

theorem vsum_eq_inf {i : Val} (hi : i = Val.pinf ∨ i = Val.ninf) (xs : List Val) (h : vsum xs = i) : i ∈ xs := by
  induction xs with
  | nil => rcases hi with rfl | rfl <;> cases h
  | cons x xs ih =>
    rw [vsum_cons] at h
    rcases Val.add_eq_inf hi h with rfl | h
    · exact List.mem_cons_self
    · exact List.mem_cons_of_mem _ (ih h)

theorem vsumsq_ne_ninf (xs : List Val) : vsum (xs.map fun x => Val.mul x x) ≠ Val.ninf := by
  intro h
  obtain ⟨x, _, hx⟩ := List.mem_map.mp (vsum_eq_inf (.inr rfl) _ h)
  exact Val.mul_self_ne_ninf x hx

theorem vsumsq_nonfin (xs : List Val) (h : ∃ x ∈ xs, x.isFinite = false) :
    vsum (xs.map fun x => Val.mul x x) = Val.nan ∨ vsum (xs.map fun x => Val.mul x x) = Val.pinf := by
  have hf : (vsum (xs.map fun x => Val.mul x x)).isFinite = false := by
    obtain ⟨x, hx, hxf⟩ := h
    exact vsum_nonfin _ ⟨_, List.mem_map_of_mem hx, by rw [Val.isFinite_mul_self, hxf]⟩
  cases hv : vsum (xs.map fun x => Val.mul x x) with
  | nan => exact Or.inl rfl
  | pinf => exact Or.inr rfl
  | ninf => exact absurd hv (vsumsq_ne_ninf xs)
  | fin q => rw [hv] at hf; cases hf

theorem onepass_nan_sum (ddof : Nat) (sq c : Val) : onepass ddof sq Val.nan c = Val.nan := by
  have hr : Val.div (Val.sub sq (Val.div (Val.mul Val.nan Val.nan) c)) (Val.sub c (Val.ofNat ddof)) = Val.nan := by
    rw [Val.mul_nan_left, Val.div_nan_left]
    show Val.div (Val.add sq Val.nan) _ = _
    rw [Val.add_nan_right, Val.div_nan_left]
  unfold onepass
  simp only [hr]
  cases c <;> simp

/-- `hq`: with a sum that is not finite the sum of squares is NaN or `+inf` -/
theorem onepass_of_nonfin (ddof n : Nat) {sq s : Val} (hs : s.isFinite = false)
    (hq : sq = Val.nan ∨ sq = Val.pinf) : onepass ddof sq s (Val.ofNat n) = Val.nan := by
  have hn : ¬ ((n : Rat) < 0) := Rat.not_lt.mpr Rat.natCast_nonneg
  cases s with
  | fin q => cases hs
  | _ => rcases hq with rfl | rfl <;>
      simp [onepass, Val.ofNat, Val.mul, Val.div, Val.sub, Val.neg, Val.add, hn]

theorem onepass_nonfin (ddof : Nat) (xs : List Val) (h : ∃ x ∈ xs, x.isFinite = false) :
    onepass ddof (vsum (xs.map fun x => Val.mul x x)) (vsum xs) (vcount xs) = Val.nan :=
  onepass_of_nonfin ddof xs.length (vsum_nonfin xs h) (vsumsq_nonfin xs h)

theorem vvar_nonfin (ddof : Nat) (xs : List Val) (h : ∃ x ∈ xs, x.isFinite = false) :
    vvar ddof xs = Val.nan := by
  unfold vvar
  split
  · rfl
  · rename_i hlen
    have hn : ¬ ((xs.length : Rat) < 0) := Rat.not_lt.mpr Rat.natCast_nonneg
    have hs := vsum_nonfin xs h
    suffices hdev : ∃ x ∈ xs, Val.mul (Val.sub x (vmean xs)) (Val.sub x (vmean xs)) = Val.nan by
      obtain ⟨x, hx, hd⟩ := hdev
      have : vsum (xs.map fun x => Val.mul (Val.sub x (vmean xs)) (Val.sub x (vmean xs))) = Val.nan :=
        vsum_nan_mem _ (List.mem_map.mpr ⟨x, hx, hd⟩)
      simp only [this]
      rfl
    cases hv : vsum xs with
    | fin q => simp [hv, Val.isFinite] at hs
    | nan =>
      obtain ⟨y, hy, _⟩ := h
      refine ⟨y, hy, ?_⟩
      simp [vmean, hv, Val.div, Val.sub, Val.neg, Val.mul]
    | pinf =>
      refine ⟨Val.pinf, vsum_eq_inf (.inl rfl) xs hv, ?_⟩
      simp [vmean, hv, vcount, Val.ofNat, Val.div, hn, Val.sub, Val.neg, Val.add, Val.mul]
    | ninf =>
      refine ⟨Val.ninf, vsum_eq_inf (.inr rfl) xs hv, ?_⟩
      simp [vmean, hv, vcount, Val.ofNat, Val.div, hn, Val.sub, Val.neg, Val.add, Val.mul]

/-- finite members: algebra; a non-finite member: both sides NaN -/
theorem onepass_eq_vvar (ddof : Nat) (xs : List Val) :
    onepass ddof (vsum (xs.map fun x => Val.mul x x)) (vsum xs) (vcount xs) = vvar ddof xs := by
  by_cases hfin : ∀ x ∈ xs, ∃ q, x = Val.fin q
  · obtain ⟨l, rfl⟩ := exists_rat_list xs hfin
    exact onepass_fin ddof l
  · have h : ∃ x ∈ xs, x.isFinite = false := by
      apply Classical.byContradiction
      intro hno
      apply hfin
      intro x hx
      cases x with
      | fin q => exact ⟨q, rfl⟩
      | _ => exact absurd ⟨_, hx, rfl⟩ hno
    rw [onepass_nonfin ddof xs h, vvar_nonfin ddof xs h]

theorem dropNaN_no_nan (ms : List Val) : Val.nan ∉ dropNaN ms := by
  simp [dropNaN, Val.isNaN]

theorem mean_finalize (ms : List Val) :
    Val.div (blockVal .sum Val.zero ms) (blockVal .nanlen Val.zero ms) = kEval .mean ms := by
  rw [blockVal_sum, blockVal_nanlen]
  exact div_vsum_vcount_dropNaN ms

theorem nanmean_finalize (ms : List Val) :
    Val.div (blockVal .nansum Val.zero ms) (blockVal .nanlen Val.zero ms) = kEval .nanmean ms := by
  rw [blockVal_nansum, blockVal_nanlen]
  rfl

theorem var_finalize (ddof : Nat) (ms : List Val) :
    onepass ddof (blockVal .sumsq Val.zero ms) (blockVal .sum Val.zero ms) (blockVal .nanlen Val.zero ms)
      = kEval (.var ddof) ms := by
  rw [blockVal_sumsq, blockVal_sum, blockVal_nanlen]
  show _ = vvar ddof ms
  by_cases h : Val.nan ∈ ms
  · rw [vsum_nan_mem ms h, onepass_nan_sum, vvar_nonfin ddof ms ⟨_, h, rfl⟩]
  · rw [dropNaN_eq_self_of_not_mem ms h]
    exact onepass_eq_vvar ddof ms

theorem nanvar_finalize (ddof : Nat) (ms : List Val) :
    onepass ddof (blockVal .nansumsq Val.zero ms) (blockVal .nansum Val.zero ms) (blockVal .nanlen Val.zero ms)
      = kEval (.nanvar ddof) ms := by
  rw [blockVal_nansumsq, blockVal_nansum, blockVal_nanlen]
  exact onepass_eq_vvar ddof (dropNaN ms)

theorem var_finalize_finite (ddof : Nat) (ms : List Val) (_hne : ms ≠ [])
    (_hfin : ∀ x ∈ ms, ∃ q, x = Val.fin q) :
    onepass ddof (blockVal .sumsq Val.zero ms) (blockVal .sum Val.zero ms) (blockVal .nanlen Val.zero ms)
      = kEval (.var ddof) ms := var_finalize ddof ms

theorem nanvar_finalize_finite (ddof : Nat) (ms : List Val) (_hne : ms ≠ [])
    (_hfin : ∀ x ∈ ms, x = Val.nan ∨ ∃ q, x = Val.fin q) :
    onepass ddof (blockVal .nansumsq Val.zero ms) (blockVal .nansum Val.zero ms) (blockVal .nanlen Val.zero ms)
      = kEval (.nanvar ddof) ms := nanvar_finalize ddof ms

theorem nanvar_nonfinite (ddof : Nat) (ms : List Val) (h : Val.pinf ∈ ms ∨ Val.ninf ∈ ms) :
    onepass ddof (blockVal .nansumsq Val.zero ms) (blockVal .nansum Val.zero ms) (blockVal .nanlen Val.zero ms)
      = Val.nan
    ∧ kEval (.nanvar ddof) ms = Val.nan := by
  have h' : ∃ x ∈ dropNaN ms, x.isFinite = false := by
    rcases h with h | h
    · exact ⟨Val.pinf, mem_dropNaN.mpr ⟨h, rfl⟩, rfl⟩
    · exact ⟨Val.ninf, mem_dropNaN.mpr ⟨h, rfl⟩, rfl⟩
  have h2 : kEval (.nanvar ddof) ms = Val.nan := vvar_nonfin ddof (dropNaN ms) h'
  exact ⟨(nanvar_finalize ddof ms).trans h2, h2⟩

theorem finalizeVals_var_map (R : Resolved) (h : R.finalize = "var") (groups : List (List Val))
    (sq s c k : List Val → Val) (hk : ∀ ms, onepass R.ddof (sq ms) (s ms) (c ms) = k ms) :
    finalizeVals R [groups.map sq, groups.map s, groups.map c] = groups.map k := by
  rw [finalizeVals_var R _ h]
  simp only [List.getD_cons_zero, List.getD_cons_succ]
  induction groups with
  | nil => rfl
  | cons g gs ih => simp only [List.map_cons, List.zip_cons_cons, ih, hk]

/-- "std" runs the same code: `finalizeVals_std` -/
theorem finalizeVals_var_blocks (R : Resolved) (h : R.finalize = "var") (groups : List (List Val)) :
    finalizeVals R [groups.map (blockVal .sumsq Val.zero), groups.map (blockVal .sum Val.zero),
        groups.map (blockVal .nanlen Val.zero)] = groups.map (kEval (.var R.ddof)) :=
  finalizeVals_var_map R h groups _ _ _ _ (var_finalize R.ddof)

theorem finalizeVals_nanvar_blocks (R : Resolved) (h : R.finalize = "var") (groups : List (List Val)) :
    finalizeVals R [groups.map (blockVal .nansumsq Val.zero), groups.map (blockVal .nansum Val.zero),
        groups.map (blockVal .nanlen Val.zero)] = groups.map (kEval (.nanvar R.ddof)) :=
  finalizeVals_var_map R h groups _ _ _ _ (nanvar_finalize R.ddof)

example : Val.div (blockVal .sum Val.zero [.fin 1, .fin (-2), .fin 4]) (blockVal .nanlen Val.zero [.fin 1, .fin (-2), .fin 4])
    = Val.fin 1 ∧ kEval .mean [.fin 1, .fin (-2), .fin 4] = Val.fin 1 := by decide +kernel

example : Val.div (blockVal .nansum Val.zero [.fin 1, .nan, .fin (-2), .fin 4])
      (blockVal .nanlen Val.zero [.fin 1, .nan, .fin (-2), .fin 4]) = Val.fin 1
    ∧ kEval .nanmean [.fin 1, .nan, .fin (-2), .fin 4] = Val.fin 1 := by decide +kernel

-- var of [1,-2,4]: mean 1, squared deviations 0,9,9; ddof 0 → 6, ddof 1 → 9
example : onepass 0 (blockVal .sumsq Val.zero [.fin 1, .fin (-2), .fin 4]) (blockVal .sum Val.zero [.fin 1, .fin (-2), .fin 4])
      (blockVal .nanlen Val.zero [.fin 1, .fin (-2), .fin 4]) = Val.fin 6
    ∧ kEval (.var 0) [.fin 1, .fin (-2), .fin 4] = Val.fin 6 := by decide +kernel

example : onepass 1 (blockVal .sumsq Val.zero [.fin 1, .fin (-2), .fin 4]) (blockVal .sum Val.zero [.fin 1, .fin (-2), .fin 4])
      (blockVal .nanlen Val.zero [.fin 1, .fin (-2), .fin 4]) = Val.fin 9
    ∧ kEval (.var 1) [.fin 1, .fin (-2), .fin 4] = Val.fin 9 := by decide +kernel

example : onepass 1 (blockVal .nansumsq Val.zero [.nan, .fin 1, .fin (-2), .nan, .fin 4])
      (blockVal .nansum Val.zero [.nan, .fin 1, .fin (-2), .nan, .fin 4])
      (blockVal .nanlen Val.zero [.nan, .fin 1, .fin (-2), .nan, .fin 4]) = Val.fin 9
    ∧ kEval (.nanvar 1) [.nan, .fin 1, .fin (-2), .nan, .fin 4] = Val.fin 9 := by decide +kernel

-- the `count ≤ ddof → NaN` convention, and a non-integer result
example : kEval (.var 3) [.fin 1, .fin (-2), .fin 4] = Val.nan
    ∧ kEval (.var 1) [.fin 1, .fin (-2)] = Val.fin (9/2) := by decide +kernel

example : onepass 0 (blockVal .sumsq Val.zero [.pinf, .fin (-1)]) (blockVal .sum Val.zero [.pinf, .fin (-1)])
      (blockVal .nanlen Val.zero [.pinf, .fin (-1)]) = Val.nan
    ∧ kEval (.var 0) [.pinf, .fin (-1)] = Val.nan := by decide +kernel

example : (∃ x ∈ [Val.pinf, Val.fin (-1)], x.isFinite = false) := ⟨Val.pinf, by simp, rfl⟩

example : onepass 1 (blockVal .nansumsq Val.zero [.pinf, .ninf, .nan, .fin (-1)])
      (blockVal .nansum Val.zero [.pinf, .ninf, .nan, .fin (-1)])
      (blockVal .nanlen Val.zero [.pinf, .ninf, .nan, .fin (-1)]) = Val.nan
    ∧ kEval (.nanvar 1) [.pinf, .ninf, .nan, .fin (-1)] = Val.nan := by decide +kernel

example : finalizeVals { (default : Resolved) with finalize := "var", ddof := 1 }
      [[.fin 21, .fin 5], [.fin 3, .fin (-1)], [.fin 3, .fin 2]] = [.fin 9, .fin (9/2)] := by decide +kernel

end Flox
