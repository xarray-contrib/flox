/-
  C07 (several groupers, bins).  `binCode` / `binCodeIv` and `pandas.cut` only ask of an edge whether it lies below the
  value (`below`), and that predicate is antitone in the edge: the two are compared for an arbitrary antitone
  `p : Rat → Bool`, as first-match codes (`findCode`).
  Several groupers: on code tuples within the shape `ravelWrap` is undone by `unravel`, and a row with a `-1` keeps flat
  code `-1`; so the members of flat slot `ravelWrap idx` are the rows equal to `idx`, and `allIndices` lists the slots in
  order, which is the reshape of the flat group axis to `grp_shape`.
-/
import FloxModel.MultiBin
import FloxProofs.Members
import FloxProofs.TreeReduce
import FloxProofs.Uniq

namespace Flox

/-- the shape of `cutCode`, for any predicate -/
def findCode {α} (q : α → Bool) (l : List α) : Int :=
  match l.findIdx? q with
  | some i => (i : Int)
  | none => -1

def shiftCode (c : Int) : Int := if c = -1 then -1 else c + 1

theorem findCode_eq_natCast_iff {α} (q : α → Bool) (l : List α) (i : Nat) :
    findCode q l = (i : Int) ↔ l.findIdx? q = some i := by
  unfold findCode
  cases l.findIdx? q <;> simp <;> omega

theorem findCode_eq_neg_one_iff {α} (q : α → Bool) (l : List α) :
    findCode q l = -1 ↔ ∀ a ∈ l, q a = false := by
  rw [← List.findIdx?_eq_none_iff]
  unfold findCode
  cases l.findIdx? q <;> simp <;> omega

theorem findCode_range {α} (q : α → Bool) (l : List α) : -1 ≤ findCode q l ∧ findCode q l < (l.length : Int) := by
  unfold findCode
  cases h : l.findIdx? q with
  | none => simp only; omega
  | some i =>
    obtain ⟨hlt, _⟩ := List.findIdx?_eq_some_iff_getElem.mp h
    simp only; omega

theorem findCode_cons {α} (q : α → Bool) (a : α) (l : List α) :
    findCode q (a :: l) = if q a then 0 else shiftCode (findCode q l) := by
  unfold findCode
  rw [List.findIdx?_cons]
  cases q a with
  | true => simp
  | false => cases l.findIdx? q <;> simp [shiftCode]

theorem findCode_eq_iff_of_exclusive {α} (q : α → Bool) (l : List α)
    (hex : l.Pairwise (fun a b => ¬ (q a = true ∧ q b = true))) (i : Nat) (a : α) (hi : l[i]? = some a) :
    findCode q l = (i : Int) ↔ q a = true := by
  obtain ⟨hlt, rfl⟩ := List.getElem?_eq_some_iff.mp hi
  rw [findCode_eq_natCast_iff, List.findIdx?_eq_some_iff_getElem]
  constructor
  · rintro ⟨_, h, _⟩; exact h
  · intro h
    exact ⟨hlt, h, fun j hj hq => List.pairwise_iff_getElem.mp hex j i (by omega) hlt hj ⟨hq, h⟩⟩

/-- abstract form of `binCode` -/
def edgeCodeOf (p : Rat → Bool) (bins : List Rat) : Int :=
  if p (listMax bins) then -1 else (bins.countP p : Int) - 1

/-- abstract form of `inInterval` -/
def inIv (p : Rat → Bool) (iv : Rat × Rat) : Bool := p iv.1 && !p iv.2

theorem listMax_cons_cons (a b : Rat) (rest : List Rat) (h : a < b) :
    listMax (a :: b :: rest) = listMax (b :: rest) := by
  simp [listMax, Rat.le_of_lt h]

theorem listMax_mem (a : Rat) (rest : List Rat) : listMax (a :: rest) ∈ a :: rest := by
  show rest.foldl (fun m e => if m ≤ e then e else m) a ∈ a :: rest
  induction rest generalizing a with
  | nil => simp
  | cons b rest ih =>
    rw [List.foldl_cons]
    have h := ih (if a ≤ b then b else a)
    split at h <;> simp only [List.mem_cons] at h ⊢ <;> grind

section antitone
variable (p : Rat → Bool) (hp : ∀ a b, a ≤ b → p b = true → p a = true)
include hp

theorem allFalse_of_head (a : Rat) (rest : List Rat) (hs : (a :: rest).Pairwise (· < ·)) (ha : p a = false) :
    ∀ e ∈ a :: rest, p e = false := by
  intro e he
  rcases List.mem_cons.mp he with rfl | he
  · exact ha
  · have hle : a ≤ e := Rat.le_of_lt ((List.pairwise_cons.mp hs).1 e he)
    cases hpe : p e with
    | false => rfl
    | true => rw [hp a e hle hpe] at ha; cases ha

theorem edgeCodeOf_cons_cons (a b : Rat) (rest : List Rat) (hs : (a :: b :: rest).Pairwise (· < ·)) :
    edgeCodeOf p (a :: b :: rest) = if inIv p (a, b) then 0 else shiftCode (edgeCodeOf p (b :: rest)) := by
  have hab : a < b := (List.pairwise_cons.mp hs).1 b (by simp)
  unfold edgeCodeOf inIv
  rw [listMax_cons_cons a b rest hab, List.countP_cons (a := a)]
  -- `b` not below the value: no later edge is, the code is `0` or `-1` according to `p a`;
  -- `b` below: so is `a`, the count grows by one, the maximum is the same
  cases hb : p b with
  | false =>
    have hall := allFalse_of_head p hp b rest hs.of_cons hb
    have hmax : p (listMax (b :: rest)) = false := hall _ (listMax_mem b rest)
    have hc : (b :: rest).countP p = 0 := List.countP_eq_zero.mpr fun e he => by simp [hall e he]
    cases p a <;> simp [hmax, hc, shiftCode]
  | true =>
    have ha : p a = true := hp a b (Rat.le_of_lt hab) hb
    have hpos : 1 ≤ (b :: rest).countP p := by rw [List.countP_cons]; simp [hb]
    simp only [ha, shiftCode, Bool.not_true, Bool.and_false, Bool.false_eq_true, if_false, if_true]
    cases p (listMax (b :: rest)) with
    | true => simp
    | false => simp only [Bool.false_eq_true, if_false]; split <;> omega

theorem edgeCodeOf_eq_findCode : ∀ bins : List Rat, bins.Pairwise (· < ·) →
    edgeCodeOf p bins = findCode (inIv p) (intervalsOfBreaks bins)
  | [], _ => by simp [edgeCodeOf, findCode, intervalsOfBreaks]
  | [a], _ => by cases h : p a <;> simp [edgeCodeOf, listMax, findCode, intervalsOfBreaks, h]
  | a :: b :: rest, hs => by
    rw [edgeCodeOf_cons_cons p hp a b rest hs, intervalsOfBreaks, findCode_cons,
      edgeCodeOf_eq_findCode (b :: rest) hs.of_cons]

theorem inIv_exclusive (a b : Rat × Rat) (hab : a.2 ≤ b.1) : ¬ (inIv p a = true ∧ inIv p b = true) := by
  simp only [inIv, Bool.and_eq_true, Bool.not_eq_true']
  rintro ⟨⟨_, ha⟩, hb, _⟩
  rw [hp a.2 b.1 hab hb] at ha
  cases ha

end antitone

theorem intervals_left_mem : ∀ (l : List Rat) (iv : Rat × Rat), iv ∈ intervalsOfBreaks l → iv.1 ∈ l
  | [], _, h | [_], _, h => by simp [intervalsOfBreaks] at h
  | a :: b :: rest, iv, h => by
    simp only [intervalsOfBreaks, List.mem_cons] at h
    rcases h with rfl | h
    · simp
    · exact List.mem_cons_of_mem _ (intervals_left_mem (b :: rest) iv h)

theorem intervals_pairwise : ∀ l : List Rat, l.Pairwise (· < ·) →
    (intervalsOfBreaks l).Pairwise (fun a b => a.2 ≤ b.1)
  | [], _ | [_], _ => by simp [intervalsOfBreaks]
  | a :: b :: rest, hs => by
    rw [intervalsOfBreaks]
    refine List.pairwise_cons.mpr ⟨fun iv hiv => ?_, intervals_pairwise (b :: rest) hs.of_cons⟩
    rcases List.mem_cons.mp (intervals_left_mem (b :: rest) iv hiv) with h | h
    · exact h ▸ Rat.le_refl
    · exact Rat.le_of_lt ((List.pairwise_cons.mp hs.of_cons).1 _ h)

def below (right : Bool) (x : Val) : Rat → Bool :=
  if right then fun e => Val.lt (.fin e) x else fun e => Val.le (.fin e) x

theorem below_nan (right : Bool) : below right .nan = fun _ => false := by
  cases right <;> rfl

theorem below_antitone (right : Bool) (x : Val) (a b : Rat) (hab : a ≤ b) (hb : below right x b = true) :
    below right x a = true := by
  -- NaN, ±inf: `below` does not depend on the edge; finite `q`: `b < q` resp. `b ≤ q` with `a ≤ b`, left to `grind`
  cases right <;> cases x <;> simp_all [below, Val.le, Val.lt, Val.isNaN] <;> grind

/-- the `within_bins` test of `_factorize_single` and the right-edge test of `pandas.cut` -/
theorem within_eq_not_below (right : Bool) (x : Val) (hx : x ≠ .nan) (m : Rat) :
    (if right then Val.le x (.fin m) else Val.lt x (.fin m)) = !below right x m := by
  -- ±inf: both sides are constants; finite `q`: `q ≤ m ↔ ¬ m < q` resp. `q < m ↔ ¬ m ≤ q`, left to `grind`
  cases right <;> cases x <;> simp_all [below, Val.le, Val.lt, Val.isNaN] <;> grind

theorem digitize_eq_countP (bins : List Rat) (right : Bool) (x : Val) (hx : x ≠ .nan) :
    digitize bins right x = bins.countP (below right x) := by
  cases x with
  | nan => exact absurd rfl hx
  | _ => cases right <;> rfl

theorem binCode_eq_edgeCodeOf (bins : List Rat) (right : Bool) (x : Val) :
    binCode bins right x = edgeCodeOf (below right x) bins := by
  by_cases hx : x = .nan
  · subst hx; cases right <;> simp [binCode, edgeCodeOf, below_nan, Val.le, Val.lt]
  · unfold binCode edgeCodeOf
    rw [within_eq_not_below right x hx, digitize_eq_countP bins right x hx]
    cases below right x (listMax bins) <;> simp

theorem inInterval_eq_inIv (right : Bool) (x : Val) (iv : Rat × Rat) :
    inInterval right iv x = inIv (below right x) iv := by
  by_cases hx : x = .nan
  · subst hx; cases right <;> simp [inInterval, inIv, below_nan, Val.le, Val.lt]
  · have h := within_eq_not_below right x hx iv.2
    cases right <;> simp_all [inInterval, inIv, below]

theorem cutCode_eq_findCode (ivs : List (Rat × Rat)) (right : Bool) (x : Val) :
    cutCode ivs right x = findCode (inIv (below right x)) ivs :=
  congrArg (findCode · ivs) (funext (inInterval_eq_inIv right x))

theorem cutCode_eq_iff_mem (ivs : List (Rat × Rat)) (hpw : ivs.Pairwise (fun a b => a.2 ≤ b.1)) (right : Bool) (x : Val)
    (i : Nat) (iv : Rat × Rat) (hi : ivs[i]? = some iv) :
    cutCode ivs right x = (i : Int) ↔ inInterval right iv x = true := by
  rw [cutCode_eq_findCode, inInterval_eq_inIv]
  exact findCode_eq_iff_of_exclusive _ _ (hpw.imp (inIv_exclusive _ (below_antitone right x) _ _)) i iv hi

theorem binCode_eq_cut (edges : List Rat) (hs : edges.Pairwise (· < ·)) (right : Bool) (x : Val) :
    binCode edges right x = cutCode (intervalsOfBreaks edges) right x := by
  rw [binCode_eq_edgeCodeOf, cutCode_eq_findCode]
  exact edgeCodeOf_eq_findCode _ (below_antitone right x) edges hs

/-- increasing, non-overlapping, non-empty intervals: `l₀ < r₀ ≤ l₁ < r₁ ≤ …` -/
def SortedIvs : List (Rat × Rat) → Prop
  | [] => True
  | [a] => a.1 < a.2
  | a :: b :: rest => a.1 < a.2 ∧ a.2 ≤ b.1 ∧ SortedIvs (b :: rest)

/-- abstract form of `gapMask` -/
def maskAbs (p : Rat → Bool) (ivs : List (Rat × Rat)) (c : Int) : Int :=
  if c < 0 then c
  else match ivs[c.toNat]? with
    | some iv => if p iv.2 then -1 else c
    | none => c

theorem gapMask_eq_maskAbs (ivs : List (Rat × Rat)) (right : Bool) (x : Val) (c : Int) :
    gapMask ivs right x c = maskAbs (below right x) ivs c := by
  cases right <;> rfl

theorem maskAbs_neg (p : Rat → Bool) (ivs : List (Rat × Rat)) : maskAbs p ivs (-1) = -1 := by
  rfl

theorem maskAbs_zero (p : Rat → Bool) (a : Rat × Rat) (l : List (Rat × Rat)) :
    maskAbs p (a :: l) 0 = if p a.2 then -1 else 0 := by
  rfl

theorem maskAbs_shiftCode (p : Rat → Bool) (a : Rat × Rat) (l : List (Rat × Rat)) (c : Int) :
    maskAbs p (a :: l) (shiftCode c) = shiftCode (maskAbs p l c) := by
  by_cases h : c < 0
  · have : shiftCode c < 0 := by unfold shiftCode; split <;> omega
    simp only [maskAbs, h, this, if_true]
  · have e : (c + 1).toNat = c.toNat + 1 := by omega
    have hc : c ≠ -1 := by omega
    have h1 : ¬ (c + 1 < 0) := by omega
    simp only [maskAbs, shiftCode, hc, h, h1, if_false, e, List.getElem?_cons_succ]
    cases l[c.toNat]? with
    | none => simp only; split <;> omega
    | some iv => cases hiv : p iv.2 <;> simp [hiv, hc]

theorem binsOf_single (a : Rat × Rat) : binsOf [a] = [a.1, a.2] := by simp [binsOf]

theorem binsOf_cons_cons (a b : Rat × Rat) (rest : List (Rat × Rat)) :
    binsOf (a :: b :: rest) = a.1 :: binsOf (b :: rest) := by
  simp [binsOf, List.getLast?_cons_cons]

theorem binsOf_cons_head (b : Rat × Rat) (rest : List (Rat × Rat)) :
    ∃ t, binsOf (b :: rest) = b.1 :: t := by
  cases rest with
  | nil => exact ⟨[b.2], binsOf_single b⟩
  | cons c rest => exact ⟨binsOf (c :: rest), binsOf_cons_cons b c rest⟩

theorem left_mem_binsOf (ivs : List (Rat × Rat)) (iv : Rat × Rat) (h : iv ∈ ivs) : iv.1 ∈ binsOf ivs := by
  simp only [binsOf, List.mem_append, List.mem_map]
  exact Or.inl ⟨iv, h, rfl⟩

/-- `intervalsOfBreaks (binsOf ivs)` is what flox digitizes against: every interval stretched to the start of the next -/
theorem intervalsOfBreaks_binsOf_cons_cons (a b : Rat × Rat) (rest : List (Rat × Rat)) :
    intervalsOfBreaks (binsOf (a :: b :: rest)) = (a.1, b.1) :: intervalsOfBreaks (binsOf (b :: rest)) := by
  obtain ⟨t, ht⟩ := binsOf_cons_head b rest
  rw [binsOf_cons_cons, ht, intervalsOfBreaks]

theorem binsOf_pairwise : ∀ ivs : List (Rat × Rat), SortedIvs ivs → (binsOf ivs).Pairwise (· < ·)
  | [], _ => by simp [binsOf]
  | [a], hs => by
    have : a.1 < a.2 := hs
    simp [binsOf_single, this]
  | a :: b :: rest, ⟨h1, h2, h3⟩ => by
    have ih := binsOf_pairwise (b :: rest) h3
    rw [binsOf_cons_cons]
    obtain ⟨t, ht⟩ := binsOf_cons_head b rest
    rw [ht] at ih ⊢
    refine List.pairwise_cons.mpr ⟨fun e he => ?_, ih⟩
    rcases List.mem_cons.mp he with rfl | he
    · grind
    · have := (List.pairwise_cons.mp ih).1 e he
      grind

theorem intervalsOfBreaks_binsOf : ∀ ivs : List (Rat × Rat), contiguousB ivs = true →
    intervalsOfBreaks (binsOf ivs) = ivs
  | [], _ => by simp [binsOf, intervalsOfBreaks]
  | [a], _ => by simp [binsOf_single, intervalsOfBreaks]
  | a :: b :: rest, hc => by
    simp only [contiguousB, Bool.and_eq_true, beq_iff_eq] at hc
    rw [intervalsOfBreaks_binsOf_cons_cons, intervalsOfBreaks_binsOf (b :: rest) hc.2, ← hc.1]

theorem maskAbs_findCode_binsOf (p : Rat → Bool) (hp : ∀ a b, a ≤ b → p b = true → p a = true) :
    ∀ ivs : List (Rat × Rat), SortedIvs ivs →
      maskAbs p ivs (findCode (inIv p) (intervalsOfBreaks (binsOf ivs))) = findCode (inIv p) ivs
  | [], _ => rfl
  | [a], _ => by
    rw [intervalsOfBreaks_binsOf [a] rfl, findCode_cons]
    cases h : inIv p a <;> simp_all [inIv, maskAbs_zero, findCode, shiftCode, maskAbs_neg]
  | a :: b :: rest, ⟨h1, h2, h3⟩ => by
    rw [intervalsOfBreaks_binsOf_cons_cons, findCode_cons, findCode_cons]
    cases hb : p b.1 with
    | true =>
      have ha2 : p a.2 = true := hp _ _ h2 hb
      have ha1 : p a.1 = true := hp _ _ (Rat.le_of_lt h1) ha2
      simp only [inIv, ha1, ha2, hb, Bool.not_true, Bool.and_false, Bool.false_eq_true, if_false]
      rw [maskAbs_shiftCode, maskAbs_findCode_binsOf p hp (b :: rest) h3]
    | false =>
      -- no left edge from `b` on lies below the value: nothing matches in either tail
      have hall : ∀ e ∈ binsOf (b :: rest), p e = false := by
        have hpw := binsOf_pairwise (b :: rest) h3
        obtain ⟨t, ht⟩ := binsOf_cons_head b rest
        rw [ht] at hpw ⊢
        exact allFalse_of_head p hp b.1 t hpw hb
      have hstretched : findCode (inIv p) (intervalsOfBreaks (binsOf (b :: rest))) = -1 :=
        (findCode_eq_neg_one_iff _ _).mpr fun iv hiv => by simp [inIv, hall _ (intervals_left_mem _ iv hiv)]
      have hrest : findCode (inIv p) (b :: rest) = -1 :=
        (findCode_eq_neg_one_iff _ _).mpr fun iv hiv => by simp [inIv, hall _ (left_mem_binsOf _ iv hiv)]
      rw [hstretched, hrest]
      cases ha1 : p a.1 <;> cases ha2 : p a.2 <;> simp [inIv, hb, ha1, ha2, maskAbs_zero, shiftCode, maskAbs_neg]

/-- `_factorize_single` (with the gap mask: finding C07-F2, repaired in /repo 02bdee3) equals `pandas.cut` on every
    sorted, non-overlapping IntervalIndex of non-empty intervals – contiguous or with gaps –, for every value (NaN, ±inf
    included) and both closed sides -/
theorem binCodeIv_eq_cut (ivs : List (Rat × Rat)) (hne : ivs ≠ []) (hs : SortedIvs ivs) (right : Bool) (x : Val) :
    binCodeIv ivs right x = cutCode ivs right x := by
  unfold binCodeIv
  rw [binCode_eq_cut (binsOf ivs) (binsOf_pairwise ivs hs) right x]
  cases hc : contiguousB ivs with
  | true => rw [if_pos rfl, intervalsOfBreaks_binsOf ivs hc]
  | false =>
    rw [if_neg Bool.false_ne_true, gapMask_eq_maskAbs, cutCode_eq_findCode, cutCode_eq_findCode]
    exact maskAbs_findCode_binsOf _ (below_antitone right x) ivs hs

/-- an index tuple of the result: one code per grouper, each inside its dimension -/
def InRange : List Int → List Nat → Prop
  | [], [] => True
  | c :: cs, d :: ds => 0 ≤ c ∧ c < (d : Int) ∧ InRange cs ds
  | _, _ => False

/-- hypothesis on a row of codes: each is `-1` (dropped) or inside its dimension, the range of what `_factorize_single`
    returns (`C07.binCode_range` for bins); no theorem derives it from `factorizeSingle` -/
def ValidRow : List Int → List Nat → Prop
  | [], [] => True
  | c :: cs, d :: ds => -1 ≤ c ∧ c < (d : Int) ∧ ValidRow cs ds
  | _, _ => False

theorem inRange_iff (cs : List Int) (ds : List Nat) :
    InRange cs ds ↔ ValidRow cs ds ∧ cs.any (· == -1) = false := by
  fun_induction InRange cs ds <;> simp_all [ValidRow] <;> grind

theorem inRange_validRow : ∀ (cs : List Int) (ds : List Nat), InRange cs ds → ValidRow cs ds :=
  fun cs ds h => ((inRange_iff cs ds).mp h).1

theorem ravelCode_of_inRange (cs : List Int) (ds : List Nat) (h : InRange cs ds) :
    ravelCode cs ds = ravelWrap cs ds := by
  simp [ravelCode, ((inRange_iff cs ds).mp h).2]

theorem ravelCode_of_dropped (cs : List Int) (ds : List Nat) (h : cs.any (· == -1) = true) :
    ravelCode cs ds = -1 :=
  if_pos h

theorem ravelWrap_cons (c : Int) (cs : List Int) (d : Nat) (ds : List Nat) :
    ravelWrap (c :: cs) (d :: ds) = c % (d : Int) * (shapeProd ds : Int) + ravelWrap cs ds :=
  rfl

theorem ravelWrap_bounds (cs : List Int) (ds : List Nat) (h : InRange cs ds) :
    0 ≤ ravelWrap cs ds ∧ ravelWrap cs ds < (shapeProd ds : Int) := by
  fun_induction InRange cs ds with
  | case1 => simp [ravelWrap, shapeProd]
  | case2 c cs d ds ih =>
    obtain ⟨h0, h1, h2⟩ := h
    obtain ⟨r0, r1⟩ := ih h2
    have hP : (0 : Int) ≤ (shapeProd ds : Int) := by omega
    have hcP : 0 ≤ c * (shapeProd ds : Int) := Int.mul_nonneg h0 hP
    have hle : (c + 1) * (shapeProd ds : Int) ≤ (d : Int) * (shapeProd ds : Int) :=
      Int.mul_le_mul_of_nonneg_right (by omega) hP
    rw [Int.add_mul, Int.one_mul] at hle
    simp only [ravelWrap_cons, shapeProd, Int.emod_eq_of_lt h0 h1, Int.natCast_mul]
    omega
  | case3 => exact h.elim

theorem unravel_ravelWrap (cs : List Int) (ds : List Nat) (h : InRange cs ds) :
    unravel (ravelWrap cs ds) ds = cs := by
  fun_induction InRange cs ds with
  | case1 => rfl
  | case2 c cs d ds ih =>
    obtain ⟨h0, h1, h2⟩ := h
    obtain ⟨r0, r1⟩ := ravelWrap_bounds cs ds h2
    have hP : (shapeProd ds : Int) ≠ 0 := by omega
    have e1 : (c * (shapeProd ds : Int) + ravelWrap cs ds) / (shapeProd ds : Int) = c := by
      rw [Int.add_comm, Int.add_mul_ediv_right _ _ hP, Int.ediv_eq_zero_of_lt r0 r1]; omega
    have e2 : (c * (shapeProd ds : Int) + ravelWrap cs ds) % (shapeProd ds : Int) = ravelWrap cs ds := by
      rw [Int.add_comm, Int.add_mul_emod_self_right, Int.emod_eq_of_lt r0 r1]
    simp only [ravelWrap_cons, unravel, Int.emod_eq_of_lt h0 h1, e1, e2, ih h2]
  | case3 => exact h.elim

theorem ravelWrap_injective (a b : List Int) (ds : List Nat) (ha : InRange a ds) (hb : InRange b ds)
    (h : ravelWrap a ds = ravelWrap b ds) : a = b := by
  rw [← unravel_ravelWrap a ds ha, ← unravel_ravelWrap b ds hb, h]

theorem ravelCode_eq_iff (r idx : List Int) (ds : List Nat) (hr : ValidRow r ds) (hidx : InRange idx ds) :
    ravelCode r ds = ravelWrap idx ds ↔ r = idx := by
  constructor
  · intro h
    cases hany : r.any (· == -1) with
    | true =>
      have := (ravelWrap_bounds idx ds hidx).1
      rw [ravelCode_of_dropped r ds hany] at h
      omega
    | false =>
      have hr' : InRange r ds := (inRange_iff r ds).mpr ⟨hr, hany⟩
      rw [ravelCode_of_inRange r ds hr'] at h
      exact ravelWrap_injective r idx ds hr' hidx h
  · rintro rfl
    exact ravelCode_of_inRange r ds hidx

theorem members_ravel_eq_tupleMembers (idx : List Int) (ds : List Nat) (hidx : InRange idx ds)
    (rows : List (List Int)) (vals : List Val) (h : ∀ r ∈ rows, ValidRow r ds) :
    members (ravelWrap idx ds) (rows.map (ravelCode · ds)) vals = tupleMembers idx rows vals := by
  induction rows generalizing vals with
  | nil => simp [tupleMembers]
  | cons r rows ih =>
    cases vals with
    | nil => simp [tupleMembers]
    | cons v vals =>
      simp only [List.map_cons, members_cons, tupleMembers, ih vals fun r' hr' => h r' (List.mem_cons_of_mem _ hr'),
        ravelCode_eq_iff r idx ds (h r (by simp)) hidx]

theorem allIndices_inRange : ∀ (ds : List Nat) (idx : List Int), idx ∈ allIndices ds → InRange idx ds
  | [], idx, h => by simp [allIndices] at h; subst h; trivial
  | d :: ds, idx, h => by
    simp only [allIndices, List.mem_flatMap, List.mem_range, List.mem_map] at h
    obtain ⟨i, hi, rest, hrest, rfl⟩ := h
    exact ⟨by omega, by omega, allIndices_inRange ds rest hrest⟩

theorem allIndices_ravel : ∀ (ds : List Nat),
    (allIndices ds).map (ravelWrap · ds) = (List.range (shapeProd ds)).map fun (g : Nat) => (g : Int)
  | [] => by simp [allIndices, ravelWrap, shapeProd, List.range_succ]
  | d :: ds => by
    rw [shapeProd, ← range_flatMap_block, allIndices, List.map_flatMap, List.map_flatMap]
    refine flatMap_congr fun i hi => ?_
    have hi' : i < d := List.mem_range.mp hi
    have hmod : (i : Int) % (d : Int) = i := Int.emod_eq_of_lt (by omega) (by omega)
    -- row `i` of either side is the statement for `ds`, shifted by `i * shapeProd ds`: `simpa` unfolds one step of
    -- `ravelWrap` on the left (`i % d = i`) and pushes the cast through `i * shapeProd ds + j` on the right
    have ih := congrArg (List.map fun r => (i : Int) * (shapeProd ds : Int) + r) (allIndices_ravel ds)
    simpa [Function.comp_def, ravelWrap_cons, hmod, Int.natCast_add, Int.natCast_mul] using ih

/-- the reshape of the flat group axis to `grp_shape`: entry `idx` is flat slot `ravelWrap idx shape` -/
theorem grouped_getElem?_ravelWrap (k : Kernel) (codes : List Int) (vals : List Val) (shape : List Nat) (fill : Val)
    (idx : List Int) (hidx : InRange idx shape) :
    (grouped k codes vals (shapeProd shape) fill)[(ravelWrap idx shape).toNat]? =
      some (if (members (ravelWrap idx shape) codes vals).isEmpty then fill
        else kEval k (members (ravelWrap idx shape) codes vals)) := by
  obtain ⟨b0, b1⟩ := ravelWrap_bounds idx shape hidx
  have hlt : (ravelWrap idx shape).toNat < shapeProd shape := by omega
  have hcast : Int.ofNat (ravelWrap idx shape).toNat = ravelWrap idx shape := by
    simp only [Int.ofNat_eq_natCast]; omega
  simp only [grouped, List.getElem?_map, List.getElem?_range hlt, Option.map_some, hcast]

theorem grouped_eq_map_allIndices (k : Kernel) (codes : List Int) (vals : List Val) (shape : List Nat) (fill : Val) :
    grouped k codes vals (shapeProd shape) fill = (allIndices shape).map fun idx =>
      if (members (ravelWrap idx shape) codes vals).isEmpty then fill
      else kEval k (members (ravelWrap idx shape) codes vals) := by
  have h := congrArg (List.map fun g => if (members g codes vals).isEmpty then fill else kEval k (members g codes vals))
    (allIndices_ravel shape)
  rw [List.map_map, List.map_map] at h
  exact h.symm

theorem bcast_map {α β} (f : α → β) : ∀ (shp target : List Nat) (xs : List α),
    bcast shp target (xs.map f) = (bcast shp target xs).map f
  | [], _, _ | _ :: _, [], _ => by simp [bcast]
  | s :: ss, t :: ts, xs => by
    simp only [bcast]
    split
    · rw [splitBy_map, List.map_map, List.map_flatten, List.map_map]
      congr 2
      funext blk
      exact bcast_map f ss ts blk
    · rw [bcast_map f ss ts xs]
      simp [List.map_flatten, List.map_replicate]

theorem factorizeLabels_codes (labels : List Key) (expected : Option (List Rat)) (sort : Bool) :
    (factorizeLabels labels expected sort).2 = labels.map (Grp.codeOf (factorizeLabels labels expected sort).1) := by
  cases expected <;> rfl

theorem factorizeLabels_found (labels : List Key) (sort : Bool) :
    factorizeLabels labels (some (factorizeLabels labels none sort).1) sort = factorizeLabels labels none sort := by
  have hg : (factorizeLabels labels (some (factorizeLabels labels none sort).1) sort).1
      = (factorizeLabels labels none sort).1 := by
    cases sort with
    | false => rfl
    | true =>
      simp only [factorizeLabels, factorizeKeys, if_true]
      exact List.mergeSort_of_pairwise ((pairwise_uniqSorted _).imp fun h => by simp; grind)
  exact Prod.ext hg (by rw [factorizeLabels_codes, hg, ← factorizeLabels_codes])

end Flox
