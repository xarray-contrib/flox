/-
  The block stage of an arg-reduction.

  `chunk_reduce` with an arg kernel (`argGrouped`: numpy_groupies returns the position inside the block of the first
  extreme among the label's members) followed by `chunk_argreduce`'s index lookup yields, per found label, the pair

      blockPairN k junk (members' values zipped with members' indices)

  (`ArgReduce.lean`), where `junk = idxs[0]` is what is stored for a label whose members are all NaN (`nanarg*`).
  `argNode` is the resulting "arg-sparse node".
-/
import FloxProofs.ArgReduce
import FloxProofs.SparseKeys

namespace Flox.Grp

theorem membersK_eq_map_pos_from (κ : Key) (keys : List Key) (xs : List Val) (d : Val) (n : Nat)
    (h : n + keys.length ≤ xs.length) :
    membersK κ keys (xs.drop n) = (posWhere (· = κ) keys n).map fun i => xs.getD i d := by
  induction keys generalizing n with
  | nil => simp [posWhere]
  | cons k ks ih =>
    have hn : n < xs.length := by simp only [List.length_cons] at h; omega
    have hd : xs.drop n = xs[n] :: xs.drop (n + 1) := (List.drop_eq_getElem_cons hn)
    rw [hd, membersK_cons, posWhere_cons, ih (n + 1) (by simp only [List.length_cons] at h; omega)]
    by_cases e : k = κ
    · simp [e, List.getD_eq_getElem?_getD, hn]
    · simp [e]

theorem membersK_eq_map_pos (κ : Key) (keys : List Key) (xs : List Val) (d : Val) (h : keys.length ≤ xs.length) :
    membersK κ keys xs = (memberPosK κ keys).map fun i => xs.getD i d := by
  have := membersK_eq_map_pos_from κ keys xs d 0 (by omega)
  simpa using this

/-- `chunk_argreduce`'s lookup of a block position in the index array -/
def toIdx (idxs : List Val) (p : Val) : Val :=
  match p with
  | .fin q => idxs.getD q.num.toNat Val.nan
  | _ => Val.nan

theorem toIdx_ofNat (idxs : List Val) (n : Nat) : toIdx idxs (Val.ofNat n) = idxs.getD n Val.nan := by
  simp [toIdx, Val.ofNat]

theorem toIdx_zero (idxs : List Val) : toIdx idxs Val.zero = idxs.getD 0 Val.nan := by
  simp [toIdx, Val.zero]

theorem getD_map_lt {α β} (l : List α) (f : α → β) (j : Nat) (d : β) (h : j < l.length) :
    (l.map f).getD j d = f l[j] := by
  simp [List.getD_eq_getElem?_getD, h]

theorem ite_filter_map {α β} (b : Bool) (f : α → β) (p : β → Bool) (l : List α) :
    (if b then (l.map f).filter p else l.map f) = (if b then l.filter (p ∘ f) else l).map f := by
  cases b <;> simp [List.filter_map]

theorem toIdx_argOfPos (k : Kernel) (hk : isArgKernel k = true) (vals idxs : List Val) (pos : List Nat) :
    toIdx idxs (argOfPos k vals Val.zero pos)
      = argPick k (idxs.getD 0 Val.nan) (pos.map fun i => (vals.getD i Val.nan, idxs.getD i Val.nan)) := by
  -- both filter the positions whose value is not NaN
  unfold argOfPos argPick
  simp only [ite_filter_map k.skipsNaN (fun i => (i, vals.getD i Val.nan)),
    ite_filter_map k.skipsNaN (fun i => (vals.getD i Val.nan, idxs.getD i Val.nan)), Function.comp_def]
  generalize (if k.skipsNaN = true then pos.filter fun i => !(vals.getD i Val.nan).isNaN else pos) = pos'
  by_cases he : pos' = []
  · simp [he, toIdx_zero]
  · have he1 : (pos'.map fun i => (i, vals.getD i Val.nan)).isEmpty = false := by simpa using he
    have he2 : (pos'.map fun i => (vals.getD i Val.nan, idxs.getD i Val.nan)).isEmpty = false := by simpa using he
    simp only [he1, he2, Bool.false_eq_true, if_false, List.map_map, Function.comp_def, toIdx_ofNat]
    have hne : (pos'.map fun i => vals.getD i Val.nan) ≠ [] := by simpa using he
    rw [kEval_arg k hk, natOf_ofNat]
    simp only [Val.ofNat, Rat.num_natCast, Int.toNat_natCast]
    have hlt := argBest_lt (argBetter k) _ hne
    simp only [List.length_map] at hlt
    rw [getD_map_lt _ _ _ _ hlt, getD_map_lt _ _ _ _ hlt]

/-- a segment of the array with the global indices of its elements; `junk` is the index stored for a label whose
    members are all NaN (`nanarg*` only) -/
structure ASeg where
  keys : List Key
  vals : List Val
  idxs : List Val
  junk : Val
deriving Inhabited

def ASeg.pairs (s : ASeg) (κ : Key) : List VI := (membersK κ s.keys s.vals).zip (membersK κ s.keys s.idxs)

def ASeg.Aligned (s : ASeg) : Prop := s.keys.length = s.vals.length ∧ s.keys.length = s.idxs.length

theorem membersK_length (κ : Key) (keys : List Key) (xs : List Val) (h : keys.length ≤ xs.length) :
    (membersK κ keys xs).length = (memberPosK κ keys).length := by
  rw [membersK_eq_map_pos κ keys xs Val.nan h]; simp

theorem ASeg.pairs_fst (s : ASeg) (h : s.Aligned) (κ : Key) : (s.pairs κ).map (·.1) = membersK κ s.keys s.vals := by
  unfold ASeg.pairs
  apply List.map_fst_zip
  rw [membersK_length κ _ _ (Nat.le_of_eq h.1), membersK_length κ _ _ (Nat.le_of_eq h.2)]
  exact Nat.le_refl _

theorem ASeg.pairs_eq_map_pos (s : ASeg) (h : s.Aligned) (κ : Key) :
    s.pairs κ = (memberPosK κ s.keys).map fun i => (s.vals.getD i Val.nan, s.idxs.getD i Val.nan) := by
  unfold ASeg.pairs
  rw [membersK_eq_map_pos κ s.keys s.vals Val.nan (Nat.le_of_eq h.1),
    membersK_eq_map_pos κ s.keys s.idxs Val.nan (Nat.le_of_eq h.2), List.zip_map']

theorem ASeg.pairs_ne_nil (s : ASeg) (h : s.Aligned) (κ : Key) (hmem : κ ∈ s.keys) : s.pairs κ ≠ [] := by
  intro e
  have h1 := membersK_ne_nil_of_mem κ s.keys s.vals hmem (Nat.le_of_eq h.1)
  apply h1
  rw [← s.pairs_fst h κ, e]; rfl

theorem ASeg.pairs_eq_nil (s : ASeg) (κ : Key) (hmem : κ ∉ s.keys) : s.pairs κ = [] := by
  unfold ASeg.pairs
  rw [membersK_eq_nil_of_not_mem κ s.keys s.vals hmem]; rfl

/-- the "arg-sparse node" of a segment: found labels; value column, index column (`blockPairN` of the label's pairs),
    and the count column when `cnt` -/
def argNode (k : Kernel) (cnt : Bool) (sort : Bool) (s : ASeg) : Inter :=
  { groups := nodeGroups sort s.keys,
    cols := [ nodeCol sort s.keys (argFillN k) fun r => (blockPairN k s.junk (s.pairs (some r))).1,
              nodeCol sort s.keys Val.zero fun r => (blockPairN k s.junk (s.pairs (some r))).2 ]
            ++ (if cnt then [nodeCol sort s.keys Val.zero fun r => countVal (membersK (some r) s.keys s.vals)]
                else []) }

theorem chunkArgreduce_eq (eng : Eng) (ks : List Kernel) (fills : List Val) (keys : List Key)
    (vals : List Val) (idxs : List Val) (sort : Bool) :
    chunkArgreduce eng ks fills keys vals idxs sort
      = if allNull (chunkReduce eng ks fills keys vals none sort).groups then chunkReduce eng ks fills keys vals none sort
        else { chunkReduce eng ks fills keys vals none sort with
               cols := (chunkReduce eng ks fills keys vals none sort).cols.mapIdx fun j col =>
                 if j = 1 then col.map (toIdx idxs) else col } := rfl

theorem argChunkVal_noarg {k : Kernel} (hk : isArgKernel k = true) : isArgKernel (argChunkVal k) = false := by
  cases k <;> simp [isArgKernel] at hk <;> rfl

theorem allNull_map_some (l : List Rat) (h : l ≠ []) : allNull (l.map some) = false := by
  cases l with
  | nil => exact absurd rfl h
  | cons a l => simp [allNull]

/-- the columns of an arg blueprint meet the side condition of `chunkReduce_cols` -/
theorem argCols_fill_zero (k : Kernel) (hk : isArgKernel k = true) (cnt : Bool) :
    ∀ p ∈ ([argChunkVal k, k] ++ (if cnt then [Kernel.nanlen] else [])).zip
      ([argFillN k, Val.zero] ++ (if cnt then [Val.zero] else [])),
      (p.1 = .nanlen ∨ p.1 = .nansumsq) → p.2 = Val.zero := by
  intro p hp hp'
  have hA : p = (argChunkVal k, argFillN k) → p.2 = Val.zero := by
    intro e; subst e
    exfalso
    rcases isArgKernel_cases hk with (rfl | rfl) | (rfl | rfl) <;> simp [argChunkVal] at hp'
  cases cnt <;> simp at hp
  · rcases hp with e | rfl
    · exact hA e
    · rfl
  · rcases hp with e | rfl | rfl
    · exact hA e
    · rfl
    · rfl

theorem colSlot_argChunkVal (k : Kernel) (hk : isArgKernel k = true) (s : ASeg) (hal : s.Aligned) (r : Rat) :
    colSlot (argChunkVal k) (argFillN k) (some r) s.keys s.vals = (blockPairN k s.junk (s.pairs (some r))).1 := by
  simp only [colSlot, argChunkVal_noarg hk, Bool.false_eq_true, if_false, blockPairN]
  rw [ASeg.pairs_fst _ hal]

theorem toIdx_colSlot (k : Kernel) (hk : isArgKernel k = true) (s : ASeg) (hal : s.Aligned)
    (hj : s.junk = s.idxs.getD 0 Val.nan) (r : Rat) :
    toIdx s.idxs (colSlot k Val.zero (some r) s.keys s.vals) = (blockPairN k s.junk (s.pairs (some r))).2 := by
  simp only [colSlot, hk, if_true, blockPairN]
  rw [toIdx_argOfPos k hk, ASeg.pairs_eq_map_pos _ hal, hj]

/-- `chunk_argreduce` on a block is the arg-sparse node of the block, the junk index being the first index of the
    block. -/
theorem chunkArgreduce_node (k : Kernel) (hk : isArgKernel k = true) (cnt : Bool) (keys : List Key)
    (vals idxs : List Val) (sort : Bool) (hv : keys.length = vals.length) (hi : keys.length = idxs.length) :
    chunkArgreduce .npg ([argChunkVal k, k] ++ (if cnt then [Kernel.nanlen] else []))
        ([argFillN k, Val.zero] ++ (if cnt then [Val.zero] else [])) keys vals idxs sort
      = argNode k cnt sort ⟨keys, vals, idxs, idxs.getD 0 Val.nan⟩ := by
  have h0 := colSlot_argChunkVal k hk ⟨keys, vals, idxs, idxs.getD 0 Val.nan⟩ ⟨hv, hi⟩
  have h1 := toIdx_colSlot k hk ⟨keys, vals, idxs, idxs.getD 0 Val.nan⟩ ⟨hv, hi⟩ rfl
  rw [chunkArgreduce_eq, chunkReduce_cols _ _ keys vals sort (argCols_fill_zero k hk cnt)]
  unfold argNode nodeGroups nodeCol
  by_cases hp : presentKeys keys = []
  · simp only [hp, if_true]
    cases cnt <;> simp [allNull]
  · have hf : foundOf sort keys ≠ [] := fun h => hp ((presentKeys_nil_iff_foundOf sort keys).mpr h)
    simp only [hp, if_false, allNull_map_some _ hf, Bool.false_eq_true]
    cases cnt
    · simp only [Bool.false_eq_true, if_false, List.append_nil, List.zip_cons_cons, List.zip_nil_right,
        List.map_cons, List.map_nil, List.mapIdx_cons, List.mapIdx_nil, List.map_map, Function.comp_def,
        h0, h1]
      simp
    · simp only [if_true, List.cons_append, List.nil_append, List.zip_cons_cons, List.zip_nil_right,
        List.map_cons, List.map_nil, List.mapIdx_cons, List.mapIdx_nil, List.map_map, Function.comp_def,
        h0, h1]
      simp [colSlot, isArgKernel, countVal]

end Flox.Grp
