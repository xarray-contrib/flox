/-
  The chunk / combine decomposition law (C04) for every built-in column triple of `floatColumns`:

      combineVal c (parts.map (blockVal k f)) = blockVal k f parts.flatten

  `parts` is the list of per-block member lists of one group (in block order); a block in which the group is
  absent contributes `[]`, a block in which all members are NaN contributes an all-NaN list.

  `law_of_eq`: the block value is a function `r` of the members and the combine kernel maps the `r` of the parts to the
  `r` of their concatenation (counts, `all` / `any`, and the order-sensitive `nanfirst` / `nanlast`, for which no
  commutativity is available and none is used).  Its instance `law_of_fold`: `r` is a monoid fold of the preprocessed
  members and the fill is the identity (sums, products, sums of squares).  `Extreme.law` / `NanExtreme.law`: the block
  value is `fill ⊔ extreme` in a semilattice, for any fill below the data (`∓inf`, the integer dtype extremes, NaN for
  the NaN-skipping kernels).
-/
import FloxProofs.BlockVal

namespace Flox

def Law (k c : Kernel) (f : Val) : Prop :=
  ∀ parts : List (List Val), parts ≠ [] → combineVal c (parts.map (blockVal k f)) = blockVal k f parts.flatten

theorem law_of_eq {k c : Kernel} {f : Val} {r : List Val → Val} (hb : ∀ p, blockVal k f p = r p)
    (hc : ∀ parts : List (List Val), kEval c (parts.map r) = r parts.flatten) (parts : List (List Val)) :
    combineVal c (parts.map (blockVal k f)) = blockVal k f parts.flatten := by
  rw [hb, ← hc, combineVal]
  exact congrArg _ (List.map_congr_left fun p _ => hb p)

theorem law_of_fold {op : Val → Val → Val} {e : Val} (m : Mon op e) {k c : Kernel} {f : Val}
    {g : List Val → List Val} (hb : ∀ p, blockVal k f p = (g p).foldl op e)
    (hc : ∀ xs, kEval c xs = xs.foldl op e) (hg : ∀ parts : List (List Val), g parts.flatten = (parts.map g).flatten)
    (parts : List (List Val)) : combineVal c (parts.map (blockVal k f)) = blockVal k f parts.flatten :=
  law_of_eq hb (fun ps => by rw [hc, hg, ← m.foldl_flatten, List.map_map]; rfl) parts

theorem Extreme.law {op : Val → Val → Val} {e : Val} {k : Kernel} (x : Extreme op e k) (f : Val) :
    ∀ parts : List (List Val), parts ≠ [] → (∀ p ∈ parts, ∀ v ∈ p, op f v = v) →
      combineVal k (parts.map (blockVal k f)) = blockVal k f parts.flatten := by
  intro parts hne h
  have hmap : parts.map (blockVal k f) = parts.map fun p => op f (p.foldl op e) :=
    List.map_congr_left fun p hp => by rw [x.blockVal_fill f p (h p hp), x.kEval_eq]
  have hflat : ∀ v ∈ parts.flatten, op f v = v := fun v hv => by
    obtain ⟨p, hp, hvp⟩ := List.mem_flatten.mp hv
    exact h p hp v hvp
  rw [combineVal, x.kEval_eq, hmap, x.toSemilat.law f hne, x.blockVal_fill f _ hflat, x.kEval_eq]

/-- `parts ≠ []`: `nanmax` of no block value at all is NaN, not the fill -/
theorem NanExtreme.law {op : Val → Val → Val} {e : Val} {nk : Kernel} (x : NanExtreme op e nk) (f : Val) :
    ∀ parts : List (List Val), parts ≠ [] → (∀ p ∈ parts, ∀ v ∈ p, v.isNaN = false → skipNaN op f v = v) →
      combineVal nk (parts.map (blockVal nk f)) = blockVal nk f parts.flatten := by
  intro parts hne h
  have hmap : parts.map (blockVal nk f)
      = parts.map fun p => skipNaN op f (p.foldl (skipNaN op) Val.nan) :=
    List.map_congr_left fun p hp => by rw [x.blockVal_fill f p (h p hp), x.kEval_fold]
  have hflat : ∀ v ∈ parts.flatten, v.isNaN = false → skipNaN op f v = v := fun v hv => by
    obtain ⟨p, hp, hvp⟩ := List.mem_flatten.mp hv
    exact h p hp v hvp
  rw [combineVal, x.kEval_fold, hmap, x.skip.law f hne, x.blockVal_fill f _ hflat, x.kEval_fold]

/-- the value column of `nanargmax` / `nanargmin` after flox 41daa06 (chunk and combine `nanmax` / `nanmin`, fill NaN, not
    one of `floatColumns`): absent and all-NaN blocks contribute NaN, which the combine skips; no block at all is fine -/
theorem NanExtreme.law_nan {op : Val → Val → Val} {e : Val} {nk : Kernel} (x : NanExtreme op e nk)
    (parts : List (List Val)) : combineVal nk (parts.map (blockVal nk Val.nan)) = blockVal nk Val.nan parts.flatten := by
  cases parts with
  | nil => rw [List.map_nil, List.flatten_nil, blockVal_nil, combineVal, x.kEval_eq]; rfl
  | cons p ps => exact x.law _ _ (List.cons_ne_nil _ _) fun _ _ _ _ _ => rfl

theorem combine_nanfirst (parts : List (List Val)) :
    combineVal .nanfirst (parts.map (blockVal .nanfirst Val.nan))
      = blockVal .nanfirst Val.nan parts.flatten :=
  law_of_eq (c := .nanfirst) blockVal_nanfirst firstNonNaN_map_flatten parts

theorem combine_nanlast (parts : List (List Val)) :
    combineVal .nanlast (parts.map (blockVal .nanlast Val.nan))
      = blockVal .nanlast Val.nan parts.flatten :=
  law_of_eq (c := .nanlast) blockVal_nanlast lastNonNaN_map_flatten parts

/-- C04 for the built-in columns; blocks where the group is absent (`[]`) or all-NaN are allowed -/
theorem combine_parts (k c : Kernel) (f : Val) (h : (k, c, f) ∈ floatColumns)
    (parts : List (List Val)) (hne : parts ≠ []) :
    combineVal c (parts.map (blockVal k f)) = blockVal k f parts.flatten := by
  simp only [floatColumns, List.mem_cons, Prod.mk.injEq, List.mem_nil_iff, or_false] at h
  rcases h with ⟨rfl, rfl, rfl⟩ | ⟨rfl, rfl, rfl⟩ | ⟨rfl, rfl, rfl⟩ | ⟨rfl, rfl, rfl⟩ |
    ⟨rfl, rfl, rfl⟩ | ⟨rfl, rfl, rfl⟩ | ⟨rfl, rfl, rfl⟩ | ⟨rfl, rfl, rfl⟩ |
    ⟨rfl, rfl, rfl⟩ | ⟨rfl, rfl, rfl⟩ | ⟨rfl, rfl, rfl⟩ | ⟨rfl, rfl, rfl⟩ |
    ⟨rfl, rfl, rfl⟩ | ⟨rfl, rfl, rfl⟩ | ⟨rfl, rfl, rfl⟩
  · exact law_of_fold Val.addMon (g := id) blockVal_sum (fun _ => rfl) (fun _ => by simp) parts
  · exact law_of_fold Val.addMon blockVal_nansum (fun _ => rfl) dropNaN_flatten parts
  · exact law_of_fold Val.mulMon (g := id) blockVal_prod (fun _ => rfl) (fun _ => by simp) parts
  · exact law_of_fold Val.mulMon blockVal_nanprod (fun _ => rfl) dropNaN_flatten parts
  · exact maxExt.law _ parts hne fun _ _ v _ => Val.max_ninf_left v
  · exact nanmaxExt.law _ parts hne fun _ _ v _ hv => by simp [skipNaN, hv, Val.max_ninf_left]
  · exact minExt.law _ parts hne fun _ _ v _ => Val.min_pinf_left v
  · exact nanminExt.law _ parts hne fun _ _ v _ hv => by simp [skipNaN, hv, Val.min_pinf_left]
  · exact law_of_eq (c := .sum) blockVal_nanlen
      (fun ps => by rw [dropNaN_flatten, ← vsum_map_vcount_eq_flatten, List.map_map]; rfl) parts
  · exact law_of_fold Val.addMon (g := List.map fun x => Val.mul x x) blockVal_sumsq (fun _ => rfl)
      (fun _ => List.map_flatten) parts
  · exact law_of_fold Val.addMon (g := fun p => (dropNaN p).map fun x => Val.mul x x) blockVal_nansumsq
      (fun _ => rfl) (fun ps => by rw [dropNaN_flatten, List.map_flatten, List.map_map]; rfl) parts
  · exact law_of_eq (c := .all) blockVal_all (fun ps => congrArg Val.ofBool (all_map_flatten ps)) parts
  · exact law_of_eq (c := .any) blockVal_any (fun ps => congrArg Val.ofBool (any_map_flatten ps)) parts
  · exact combine_nanfirst parts
  · exact combine_nanlast parts

theorem column_law {k c : Kernel} {f : Val} (h : (k, c, f) ∈ floatColumns) : Law k c f :=
  fun parts hne => combine_parts k c f h parts hne

theorem blockVal_allNaN (k c : Kernel) (f : Val) (h : (k, c, f) ∈ floatColumns)
    (hs : k.skipsNaN = true) (p : List Val) (hp : ∀ x ∈ p, x.isNaN = true) :
    blockVal k f p = f := by
  by_cases hne : p = []
  · rw [hne, blockVal_nil]
  · rw [blockVal_of_allNaN k f p hs hne (dropNaN_eq_nil_iff.mpr hp), floatColumns_allNaNVal h hs]

/-- `hp` holds for an absent block, and for an all-NaN block under a NaN-skipping kernel whose all-NaN value is the fill -/
theorem Law.block_neutral {k c : Kernel} {f : Val} (hlaw : Law k c f) {p : List Val} (hp : blockVal k f p = f)
    (l₁ l₂ : List (List Val)) (hne : l₁ ++ l₂ ≠ []) :
    combineVal c ((l₁ ++ p :: l₂).map (blockVal k f)) = combineVal c ((l₁ ++ l₂).map (blockVal k f)) := by
  have h1 : (l₁ ++ p :: l₂).map (blockVal k f) = (l₁ ++ [] :: l₂).map (blockVal k f) := by
    simp only [List.map_append, List.map_cons, hp, blockVal_nil]
  rw [h1, hlaw _ (by simp), hlaw _ hne]
  simp

theorem allNaN_block_eq_absent (k c : Kernel) (f : Val) (h : (k, c, f) ∈ floatColumns)
    (hs : k.skipsNaN = true) (p : List Val) (hp : ∀ x ∈ p, x.isNaN = true)
    (l₁ l₂ : List (List Val)) :
    combineVal c ((l₁ ++ p :: l₂).map (blockVal k f))
      = combineVal c ((l₁ ++ [] :: l₂).map (blockVal k f)) := by
  simp only [List.map_append, List.map_cons, blockVal_allNaN k c f h hs p hp, blockVal_nil]

/-- C04: absent and all-NaN blocks are neutral.  `l₁ ++ l₂ ≠ []`: there is at least one other block; without it
    the statement fails for `nanmax` / `nanmin`, see the `example` below. -/
theorem absent_block_neutral (k c : Kernel) (f : Val) (h : (k, c, f) ∈ floatColumns)
    (p : List Val) (hp : p = [] ∨ (k.skipsNaN = true ∧ ∀ x ∈ p, x.isNaN = true))
    (l₁ l₂ : List (List Val)) (hne : l₁ ++ l₂ ≠ []) :
    combineVal c ((l₁ ++ p :: l₂).map (blockVal k f))
      = combineVal c ((l₁ ++ l₂).map (blockVal k f)) := by
  refine (column_law h).block_neutral ?_ l₁ l₂ hne
  rcases hp with rfl | ⟨hs, hp⟩
  · rfl
  · exact blockVal_allNaN k c f h hs p hp

section Examples
open Val

def exParts : List (List Val) := [[fin 1, nan, fin (-2)], [], [fin 5]]

example : floatColumns.length = 15 := rfl

example : ∀ t ∈ floatColumns,
    combineVal t.2.1 (exParts.map (blockVal t.1 t.2.2)) = blockVal t.1 t.2.2 exParts.flatten := by
  decide +kernel

example : combineVal .sum (exParts.map (blockVal .nansum zero)) = fin 4 := by decide +kernel
example : combineVal .sum (exParts.map (blockVal .sum zero)) = nan := by decide +kernel
example : combineVal .sum (exParts.map (blockVal .nanlen zero)) = fin 3 := by decide +kernel
example : combineVal .nanmax (exParts.map (blockVal .nanmax ninf)) = fin 5 := by decide +kernel
example : combineVal .nanmin (exParts.map (blockVal .nanmin pinf)) = fin (-2) := by decide +kernel
example : combineVal .prod (exParts.map (blockVal .nanprod one)) = fin (-10) := by decide +kernel
example : combineVal .sum (exParts.map (blockVal .nansumsq zero)) = fin 30 := by decide +kernel
example : combineVal .nanfirst (exParts.map (blockVal .nanfirst nan)) = fin 1 := by decide +kernel
example : combineVal .nanlast (exParts.map (blockVal .nanlast nan)) = fin 5 := by decide +kernel

example : ∀ t ∈ floatColumns,
    combineVal t.2.1 ([[nan, nan], [pinf, fin 3], [], [nan, fin 0]].map (blockVal t.1 t.2.2))
      = blockVal t.1 t.2.2 [nan, nan, pinf, fin 3, nan, fin 0] := by
  decide +kernel

-- order matters for nanfirst / nanlast
example : combineVal .nanfirst ([[fin 1], [fin 2]].map (blockVal .nanfirst nan))
    ≠ combineVal .nanfirst ([[fin 2], [fin 1]].map (blockVal .nanfirst nan)) := by decide +kernel

-- `parts ≠ []` cannot be dropped from `combine_parts` (nanmax / nanmin):
example : combineVal .nanmax (([] : List (List Val)).map (blockVal .nanmax ninf)) = nan := by
  decide +kernel
example : blockVal .nanmax ninf ([] : List (List Val)).flatten = ninf := by decide +kernel

-- `l₁ ++ l₂ ≠ []` cannot be dropped from `absent_block_neutral`:
example : combineVal .nanmax (([] ++ [] :: ([] : List (List Val))).map (blockVal .nanmax ninf))
    ≠ combineVal .nanmax (([] ++ ([] : List (List Val))).map (blockVal .nanmax ninf)) := by
  decide +kernel

example : combineVal .nanmax (([[fin 1]] ++ [nan, nan] :: [[fin 0]]).map (blockVal .nanmax ninf))
    = combineVal .nanmax (([[fin 1]] ++ [[fin 0]]).map (blockVal .nanmax ninf)) :=
  absent_block_neutral .nanmax .nanmax ninf (by decide +kernel) [nan, nan]
    (Or.inr ⟨rfl, by decide +kernel⟩) [[fin 1]] [[fin 0]] (by simp)

end Examples

/-! ### integer data and the finite intermediate fills of `max` / `min` / `nanmax` / `nanmin`

  For integer arrays `_get_fill_value` resolves the sentinels `NINF` / `INF` to the dtype extremes
  (`max`: -2^63 for int64, …), which are not identities of `np.maximum` / `np.minimum` on all of `Val`, only on
  the data that can occur: every member is ≥ the fill (resp. ≤).  That is the hypothesis of `Extreme.law` /
  `NanExtreme.law`; here: integer data satisfy it for the dtype-extreme fills.  It cannot be
  dropped: `C04.fill_not_neutral_counterexample` (fill 0 is neutral for `max` only on non-negative data).
-/

/-- a value an array of a signed integer dtype with `bits` bits can hold -/
def IsIntN (bits : Nat) (x : Val) : Prop := ∃ i : Int, x = Val.ofInt i ∧ -(2 ^ (bits - 1) : Int) ≤ i ∧ i < 2 ^ (bits - 1)

/-- the fill `_get_fill_value(intN, NINF)` = `iinfo.min` -/
def intMin (bits : Nat) : Val := Val.ofInt (-(2 ^ (bits - 1) : Int))
/-- the fill `_get_fill_value(intN, INF)` = `iinfo.max` -/
def intMax (bits : Nat) : Val := Val.ofInt ((2 ^ (bits - 1) : Int) - 1)

theorem max_fin_of_le (a b : Rat) (h : a ≤ b) : Val.max (Val.fin a) (Val.fin b) = Val.fin b := by
  simp [Val.max, h]

theorem min_fin_of_ge (a b : Rat) (h : b ≤ a) : Val.min (Val.fin a) (Val.fin b) = Val.fin b := by
  by_cases he : a ≤ b
  · have : a = b := Rat.le_antisymm he h
    simp [Val.min, this]
  · simp [Val.min, he]

theorem intN_ge_min (bits : Nat) (x : Val) (h : IsIntN bits x) : Val.max (intMin bits) x = x := by
  obtain ⟨i, rfl, hlo, _⟩ := h
  exact max_fin_of_le _ _ (by exact_mod_cast hlo)

theorem intN_le_max (bits : Nat) (x : Val) (h : IsIntN bits x) : Val.min (intMax bits) x = x := by
  obtain ⟨i, rfl, _, hhi⟩ := h
  have h1 : i ≤ (2 ^ (bits - 1) : Int) - 1 := by omega
  exact min_fin_of_ge _ _ (by exact_mod_cast h1)

theorem intN_not_nan (bits : Nat) (x : Val) (h : IsIntN bits x) : x.isNaN = false := by
  obtain ⟨i, rfl, _, _⟩ := h; rfl

end Flox
