/-
  Chunking (`splitBy`), `partition_all` and the reduction tree, independently of what is being combined.

  `treeReduce_inv`: if the combine function maps intermediates that stand (`Rel`) for pieces of data to an intermediate
  that stands for the concatenation (`cat`) of the pieces, then the tree of any `split_every` followed by the final
  combine yields an intermediate that stands for the concatenation of all pieces.  Every plan instantiates `Rel`;
  `treeReduce_nodes` is the case where the intermediate is a function `node` of its piece.
-/
import FloxModel.Pipeline

namespace Flox

theorem splitBy_length {α} (chunks : List Nat) (xs : List α) : (splitBy chunks xs).length = chunks.length := by
  induction chunks generalizing xs with
  | nil => rfl
  | cons n ns ih => simp [splitBy, ih]

theorem splitBy_map {α β} (f : α → β) (chunks : List Nat) (xs : List α) :
    splitBy chunks (xs.map f) = (splitBy chunks xs).map (List.map f) := by
  induction chunks generalizing xs with
  | nil => rfl
  | cons n ns ih => simp only [splitBy, List.map_cons, ← List.map_take, ← List.map_drop, ih]

theorem splitBy_flatten {α} (chunks : List Nat) (xs : List α) (h : xs.length ≤ chunks.sum) :
    (splitBy chunks xs).flatten = xs := by
  induction chunks generalizing xs with
  | nil =>
    have : xs = [] := List.length_eq_zero_iff.mp (by simpa using h)
    simp [splitBy, this]
  | cons n ns ih =>
    simp only [splitBy, List.flatten_cons]
    rw [ih (xs.drop n) (by simp only [List.length_drop, List.sum_cons] at h ⊢; omega)]
    exact List.take_append_drop n xs

theorem splitBy_zip_aligned {α β} (chunks : List Nat) (xs : List α) (ys : List β) (h : xs.length = ys.length) :
    ∀ p ∈ (splitBy chunks xs).zip (splitBy chunks ys), p.1.length = p.2.length := by
  induction chunks generalizing xs ys with
  | nil => intro p hp; simp [splitBy] at hp
  | cons n ns ih =>
    intro p hp
    simp only [splitBy, List.zip_cons_cons, List.mem_cons] at hp
    rcases hp with rfl | hp
    · simp [h]
    · exact ih (xs.drop n) (ys.drop n) (by simp [h]) p hp

theorem splitBy_zip_fst {α β} (chunks : List Nat) (xs : List α) (ys : List β) (h : xs.length ≤ chunks.sum) :
    (((splitBy chunks xs).zip (splitBy chunks ys)).map (·.1)).flatten = xs := by
  rw [List.map_fst_zip (by simp [splitBy_length]), splitBy_flatten _ _ h]

theorem splitBy_zip_snd {α β} (chunks : List Nat) (xs : List α) (ys : List β) (h : ys.length ≤ chunks.sum) :
    (((splitBy chunks xs).zip (splitBy chunks ys)).map (·.2)).flatten = ys := by
  rw [List.map_snd_zip (by simp [splitBy_length]), splitBy_flatten _ _ h]

theorem splitBy_zip_ne_nil {α β} (chunks : List Nat) (xs : List α) (ys : List β) (h : chunks ≠ []) :
    (splitBy chunks xs).zip (splitBy chunks ys) ≠ [] := by
  cases chunks with
  | nil => exact absurd rfl h
  | cons n ns => simp [splitBy]

theorem partitionAll_stop {α} (k : Nat) (xs : List α) (h : k = 0 ∨ xs = []) :
    partitionAll k xs = if xs = [] then [] else [xs] := by
  rw [partitionAll]; simp [h]

theorem partitionAll_step {α} (k : Nat) (xs : List α) (hk : k ≠ 0) (hx : xs ≠ []) :
    partitionAll k xs = xs.take k :: partitionAll k (xs.drop k) := by
  rw [partitionAll]; simp [hk, hx]

theorem partitionAll_induct {α} (k : Nat) (P : List α → Prop)
    (stop : ∀ xs, (k = 0 ∨ xs = []) → P xs)
    (step : ∀ xs, k ≠ 0 → xs ≠ [] → P (xs.drop k) → P xs) : ∀ xs, P xs := by
  intro xs
  generalize hn : xs.length = n
  induction n using Nat.strongRecOn generalizing xs with
  | ind n ih =>
    by_cases h : k = 0 ∨ xs = []
    · exact stop xs h
    · have hk : k ≠ 0 := fun e => h (Or.inl e)
      have hx : xs ≠ [] := fun e => h (Or.inr e)
      have : 0 < xs.length := List.length_pos_iff.mpr hx
      exact step xs hk hx (ih (xs.drop k).length (by simp only [List.length_drop]; omega) _ rfl)

theorem partitionAll_flatten {α} (k : Nat) (xs : List α) : (partitionAll k xs).flatten = xs := by
  induction xs using partitionAll_induct k with
  | stop xs h => rw [partitionAll_stop k xs h]; split <;> simp_all
  | step xs hk hx ih => rw [partitionAll_step k xs hk hx]; simp [ih]

theorem partitionAll_ne_nil {α} (k : Nat) (xs : List α) (h : xs ≠ []) : partitionAll k xs ≠ [] := by
  by_cases hs : k = 0 ∨ xs = []
  · rw [partitionAll_stop k xs hs]; simp [h]
  · rw [partitionAll_step k xs (fun e => hs (Or.inl e)) h]; simp

theorem partitionAll_mem_ne_nil {α} (k : Nat) (xs : List α) : ∀ g ∈ partitionAll k xs, g ≠ [] := by
  induction xs using partitionAll_induct k with
  | stop xs h => rw [partitionAll_stop k xs h]; split <;> simp_all
  | step xs hk hx ih =>
    rw [partitionAll_step k xs hk hx]
    intro g hg
    simp only [List.mem_cons] at hg
    rcases hg with rfl | hg
    · exact fun e => (List.take_eq_nil_iff.mp e).elim hk hx
    · exact ih g hg

theorem partitionAll_map {α β} (f : α → β) (k : Nat) (xs : List α) :
    partitionAll k (xs.map f) = (partitionAll k xs).map (List.map f) := by
  induction xs using partitionAll_induct k with
  | stop xs h =>
    have h' : k = 0 ∨ xs.map f = [] := h.imp id (by simp)
    rw [partitionAll_stop k xs h, partitionAll_stop k _ h']
    by_cases hx : xs = [] <;> simp [hx]
  | step xs hk hx ih =>
    have hx' : xs.map f ≠ [] := by simpa using hx
    rw [partitionAll_step k xs hk hx, partitionAll_step k _ hk hx', List.map_cons, ← List.map_take,
      ← List.map_drop, ih]

theorem partitionAll_mem_sub {α} (k : Nat) (xs : List α) (g : List α) (hg : g ∈ partitionAll k xs)
    (x : α) (hx : x ∈ g) : x ∈ xs := by
  rw [← partitionAll_flatten k xs]
  exact List.mem_flatten.mpr ⟨g, hg, hx⟩

section Tree

variable {α σ : Type} (Rel : α → σ → Prop) (cat : List σ → σ) (comb : List α → α)

theorem rounds_inv
    (hcat : ∀ L : List (List σ), cat (L.map cat) = cat L.flatten)
    (hcomb : ∀ ps : List (α × σ), ps ≠ [] → (∀ p ∈ ps, Rel p.1 p.2) →
      Rel (comb (ps.map (·.1))) (cat (ps.map (·.2))))
    (k : Nat) (l : List Nat) (ps : List (α × σ)) (hne : ps ≠ []) (h : ∀ p ∈ ps, Rel p.1 p.2) :
    ∃ qs : List (α × σ), qs ≠ [] ∧ (∀ q ∈ qs, Rel q.1 q.2) ∧ cat (qs.map (·.2)) = cat (ps.map (·.2)) ∧
      l.foldl (fun cur _ => (partitionAll k cur).map comb) (ps.map (·.1)) = qs.map (·.1) := by
  induction l generalizing ps with
  | nil => exact ⟨ps, hne, h, rfl, rfl⟩
  | cons _ l ih =>
    obtain ⟨qs, h1, h2, h3, h4⟩ :=
      ih ((partitionAll k ps).map fun grp => (comb (grp.map (·.1)), cat (grp.map (·.2))))
        (by simpa using partitionAll_ne_nil k ps hne)
        (by
          intro q hq
          obtain ⟨grp, hgrp, rfl⟩ := List.mem_map.mp hq
          exact hcomb grp (partitionAll_mem_ne_nil k ps grp hgrp)
            (fun p hp => h p (partitionAll_mem_sub k ps grp hgrp p hp)))
    refine ⟨qs, h1, h2, ?_, ?_⟩
    · rw [h3, List.map_map]
      show cat ((partitionAll k ps).map (cat ∘ List.map (·.2))) = _
      rw [← List.map_map, hcat, ← partitionAll_map, partitionAll_flatten]
    · rw [← h4, List.foldl_cons, partitionAll_map, List.map_map, List.map_map]
      rfl

theorem treeReduce_inv {Rel : Inter → σ → Prop} {cat : List σ → σ} {comb : List Inter → Inter}
    (hcat : ∀ L : List (List σ), cat (L.map cat) = cat L.flatten)
    (hcomb : ∀ ps : List (Inter × σ), ps ≠ [] → (∀ p ∈ ps, Rel p.1 p.2) →
      Rel (comb (ps.map (·.1))) (cat (ps.map (·.2))))
    (se : Nat) (ps : List (Inter × σ)) (hne : ps ≠ []) (h : ∀ p ∈ ps, Rel p.1 p.2) :
    Rel (comb (treeReduce comb se (ps.map (·.1)))) (cat (ps.map (·.2))) := by
  obtain ⟨qs, h1, h2, h3, h4⟩ := rounds_inv Rel cat comb hcat hcomb (Nat.max se 2)
    (List.range (ceilLog (Nat.max se 2) (ps.map (·.1)).length - 1)) ps hne h
  rw [treeReduce, h4, ← h3]
  exact hcomb qs h1 h2

/-- `Q`: what the combine step needs of the pieces (for instance codes and values of equal length) -/
theorem treeReduce_nodes {node : σ → Inter} {Q : σ → Prop} {cat : List σ → σ} {comb : List Inter → Inter}
    (hcat : ∀ L : List (List σ), cat (L.map cat) = cat L.flatten)
    (hcomb : ∀ ss : List σ, ss ≠ [] → (∀ s ∈ ss, Q s) → Q (cat ss) ∧ comb (ss.map node) = node (cat ss))
    (se : Nat) (ss : List σ) (hne : ss ≠ []) (h : ∀ s ∈ ss, Q s) :
    comb (treeReduce comb se (ss.map node)) = node (cat ss) := by
  have key := treeReduce_inv (Rel := fun x s => Q s ∧ x = node s) (cat := cat) (comb := comb) hcat
    (by
      intro ps hps hrel
      have e : ps.map (·.1) = (ps.map (·.2)).map node := by
        rw [List.map_map]
        exact List.map_congr_left fun p hp => (hrel p hp).2
      rw [e]
      exact hcomb _ (by simpa using hps) (by
        intro s hs
        obtain ⟨p, hp, rfl⟩ := List.mem_map.mp hs
        exact (hrel p hp).1))
    se (ss.map fun s => (node s, s)) (by simpa using hne)
    (by
      intro p hp
      obtain ⟨s, hs, rfl⟩ := List.mem_map.mp hp
      exact ⟨h s hs, rfl⟩)
  simp only [List.map_map, Function.comp_def, List.map_id'] at key
  exact key.2

theorem exists_fun_of_forall_mem {α β : Type} [Inhabited β] {P : α → β → Prop} {l : List α}
    (h : ∀ a ∈ l, ∃ b, P a b) : ∃ f : α → β, ∀ a ∈ l, P a (f a) := by
  classical
  exact ⟨fun a => if h' : ∃ b, P a b then Classical.choose h' else default,
    fun a ha => by simp only [dif_pos (h a ha)]; exact Classical.choose_spec (h a ha)⟩

end Tree

end Flox
