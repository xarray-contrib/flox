/-
  The text literals "0" and "1" of the generated tables, parsed by the model's `Val.parse?` / `String.toNat!`.

  These core `String` functions are implemented with iterators / well-founded recursion and do not reduce by
  `decide`; the facts are proved here from the `Std.Data.String.ToNat` lemmas and by unfolding `String.splitOnAux`.
-/
import Std.Data.String.ToNat
import FloxModel.Val

namespace Flox

theorem isNat_lit0 : "0".isNat = true := String.isNat_of_isDigit (by decide) (by simp)
theorem isNat_lit1 : "1".isNat = true := String.isNat_of_isDigit (by decide) (by simp)

theorem toNat?_lit0 : "0".toNat? = some 0 := by
  rw [String.toNat?_eq_some_ofDigitChars isNat_lit0]; simp; decide
theorem toNat?_lit1 : "1".toNat? = some 1 := by
  rw [String.toNat?_eq_some_ofDigitChars isNat_lit1]; simp; decide

theorem toNat!_of_toNat? (s : String) (n : Nat) (h : s.toNat? = some n) : s.toNat! = n := by
  have hn : s.isNat = true := String.isNat_of_toNat?_eq_some h
  simp only [String.toNat!, String.Slice.toNat!, String.toNat?, String.Slice.toNat?, ← String.isNat_toSlice] at *
  rw [if_pos hn] at h ⊢
  exact Option.some.inj h

theorem toNat!_lit0 : "0".toNat! = 0 := toNat!_of_toNat? _ _ toNat?_lit0
theorem toNat!_lit1 : "1".toNat! = 1 := toNat!_of_toNat? _ _ toNat?_lit1

theorem splitOn_lit0 : "0".splitOn "/" = ["0"] := by
  have h0 : ("/" == "") = false := by decide +kernel
  simp only [String.splitOn, h0]
  rw [String.splitOnAux]
  rw [if_neg (show ¬ (String.Pos.Raw.atEnd "0" 0 = true) by decide +kernel)]
  rw [if_neg (show ¬ ((String.Pos.Raw.get "0" 0 == String.Pos.Raw.get "/" 0) = true) by decide +kernel)]
  rw [String.splitOnAux]
  rw [if_neg (show ¬ (false = true) by decide)]
  rw [if_pos (show String.Pos.Raw.atEnd "0" (String.Pos.Raw.next "0" (String.Pos.Raw.unoffsetBy 0 0)) = true by
    decide +kernel)]
  decide +kernel

theorem splitOn_lit1 : "1".splitOn "/" = ["1"] := by
  have h0 : ("/" == "") = false := by decide +kernel
  simp only [String.splitOn, h0]
  rw [String.splitOnAux]
  rw [if_neg (show ¬ (String.Pos.Raw.atEnd "1" 0 = true) by decide +kernel)]
  rw [if_neg (show ¬ ((String.Pos.Raw.get "1" 0 == String.Pos.Raw.get "/" 0) = true) by decide +kernel)]
  rw [String.splitOnAux]
  rw [if_neg (show ¬ (false = true) by decide)]
  rw [if_pos (show String.Pos.Raw.atEnd "1" (String.Pos.Raw.next "1" (String.Pos.Raw.unoffsetBy 0 0)) = true by
    decide +kernel)]
  decide +kernel

theorem toInt?_of_toNat? (s : String) (n : Nat) (hd : (s.toSlice.dropPrefix? '-').isNone = true)
    (hn : s.toNat? = some n) : s.toInt? = some (n : Int) := by
  rw [← String.toNat?_toSlice] at hn
  simp only [String.toInt?, String.Slice.toInt?]
  cases h : s.toSlice.dropPrefix? '-' with
  | some r => rw [h] at hd; cases hd
  | none => simp [hn]

theorem parse?_of_toInt? (s : String) (i : Int) (h1 : s ≠ "nan") (h2 : s ≠ "inf") (h3 : s ≠ "-inf")
    (hs : s.splitOn "/" = [s]) (hi : s.toInt? = some i) : Val.parse? s = some (Val.fin i) := by
  unfold Val.parse?
  rw [if_neg h1, if_neg h2, if_neg h3]
  simp [Val.parseRat?, hs, hi]

theorem parse?_lit0 : Val.parse? "0" = some (Val.fin 0) :=
  parse?_of_toInt? "0" 0 (by decide) (by decide) (by decide) splitOn_lit0
    (toInt?_of_toNat? "0" 0 (by decide +kernel) toNat?_lit0)

theorem parse?_lit1 : Val.parse? "1" = some (Val.fin 1) :=
  parse?_of_toInt? "1" 1 (by decide) (by decide) (by decide) splitOn_lit1
    (toInt?_of_toNat? "1" 1 (by decide +kernel) toNat?_lit1)

end Flox
