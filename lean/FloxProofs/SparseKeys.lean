/-
  Without expected groups a block's intermediate is addressed by the labels found in it: `chunk_reduce` factorizes the
  keys (`foundOf`, `codeOf`), and the slot of a found label holds the block value of the members carrying that label
  (`membersK`; `chunkReduce_cols`).  Concatenating such nodes and factorizing again finds the labels of the concatenated
  segments (`foundOf_nodes`), and the entries of one label in a concatenated column are one per segment in which the
  label occurs (`membersK_nodes`): what the proofs about `_grouped_combine` rest on.  With the integer codes as keys
  (`keyMembers`, `spInter`) this is the block stage of the `reindex=False` plans, whose tail is `finish_keys`.
-/
import FloxProofs.EndToEnd
import FloxModel.Entry

namespace Flox.Grp

def membersK (κ : Key) : List Key → List Val → List Val
  | k :: ks, v :: vs => if k = κ then v :: membersK κ ks vs else membersK κ ks vs
  | _, _ => []

@[simp] theorem membersK_nil_left (κ : Key) (vs : List Val) : membersK κ [] vs = [] := rfl
@[simp] theorem membersK_nil_right (κ : Key) (ks : List Key) : membersK κ ks [] = [] := by
  cases ks <;> rfl
@[simp] theorem membersK_cons (κ k : Key) (ks : List Key) (v : Val) (vs : List Val) :
    membersK κ (k :: ks) (v :: vs) = if k = κ then v :: membersK κ ks vs else membersK κ ks vs := rfl

theorem membersK_eq_filter (κ : Key) (keys : List Key) (vals : List Val) :
    membersK κ keys vals = ((keys.zip vals).filter fun p => p.1 = κ).map (·.2) := by
  induction keys generalizing vals with
  | nil => simp
  | cons k ks ih =>
    cases vals with
    | nil => simp
    | cons v vs =>
      simp only [List.zip_cons_cons, List.filter_cons, membersK_cons, ih]
      by_cases hk : k = κ <;> simp [hk]

theorem membersK_append (κ : Key) (k₁ k₂ : List Key) (v₁ v₂ : List Val) (h : k₁.length = v₁.length) :
    membersK κ (k₁ ++ k₂) (v₁ ++ v₂) = membersK κ k₁ v₁ ++ membersK κ k₂ v₂ := by
  simp only [membersK_eq_filter, List.zip_append h, List.filter_append, List.map_append]

theorem members_map_keys (g : Int) (κ : Key) (φ : Key → Int) (keys : List Key) (vals : List Val)
    (h : ∀ k ∈ keys, (φ k = g ↔ k = κ)) :
    members g (keys.map φ) vals = membersK κ keys vals := by
  rw [members_eq_filter, membersK_eq_filter]
  exact filter_zip_map_left φ κ g keys vals h

theorem membersK_eq_nil_of_not_mem (κ : Key) (keys : List Key) (vals : List Val) (h : κ ∉ keys) :
    membersK κ keys vals = [] := by
  rw [membersK_eq_filter, List.map_eq_nil_iff, List.filter_eq_nil_iff]
  intro p hp e
  exact h (of_decide_eq_true e ▸ (List.of_mem_zip hp).1)

theorem mem_of_mem_membersK {κ : Key} {keys : List Key} {vals : List Val} {v : Val}
    (h : v ∈ membersK κ keys vals) : v ∈ vals := by
  rw [membersK_eq_filter] at h
  obtain ⟨p, hp, rfl⟩ := List.mem_map.mp h
  exact (List.of_mem_zip (List.mem_filter.mp hp).1).2

theorem membersK_ne_nil_of_mem (κ : Key) (keys : List Key) (vals : List Val) (h : κ ∈ keys)
    (hlen : keys.length ≤ vals.length) : membersK κ keys vals ≠ [] := by
  obtain ⟨i, hi, rfl⟩ := List.getElem_of_mem h
  have hz : i < (keys.zip vals).length := by
    rw [List.length_zip]; exact Nat.lt_min.mpr ⟨hi, Nat.lt_of_lt_of_le hi hlen⟩
  rw [membersK_eq_filter]
  intro e
  have := List.filter_eq_nil_iff.mp (List.map_eq_nil_iff.mp e) _ (List.getElem_mem hz)
  simp at this

/-- the labels `factorize_` finds in a block -/
def foundOf (sort : Bool) (keys : List Key) : List Rat := uniqOf sort (presentKeys keys)

theorem factorizeKeys_none (keys : List Key) (sort : Bool) :
    factorizeKeys keys none sort = (foundOf sort keys, keys.map (codeOf (foundOf sort keys))) := by
  cases sort <;> rfl

theorem factorizeLabels_none (keys : List Key) (sort : Bool) :
    factorizeLabels keys none sort = (foundOf sort keys, keys.map (codeOf (foundOf sort keys))) :=
  factorizeKeys_none keys sort

theorem mem_foundOf (sort : Bool) (r : Rat) (keys : List Key) : r ∈ foundOf sort keys ↔ some r ∈ keys := by
  rw [foundOf, mem_uniqOf, mem_presentKeys]

theorem nodup_foundOf (sort : Bool) (keys : List Key) : (foundOf sort keys).Nodup := nodup_uniqOf sort _

theorem codeOf_eq_iff_label (groups : List Rat) (hnd : groups.Nodup) (l : Key) (j : Nat) (hj : j < groups.length) :
    codeOf groups l = (j : Int) ↔ l = some groups[j] := by
  cases l with
  | none => simp only [codeOf, reduceCtorEq]
  | some r =>
    cases hi : indexOf? r groups with
    | none =>
      simp only [codeOf, hi, Option.some.injEq]
      constructor
      · intro h; omega
      · rintro rfl; rw [indexOf?_getElem hnd j hj] at hi; cases hi
    | some i =>
      obtain ⟨hi', e⟩ := indexOf?_some hi
      simp only [codeOf, hi, Option.some.injEq, Int.natCast_inj]
      constructor
      · rintro rfl; exact e.symm
      · rintro rfl; rw [indexOf?_getElem hnd j hj] at hi; exact (Option.some.inj hi).symm

theorem members_by_label (groups : List Rat) (hnd : groups.Nodup) (j : Nat) (hj : j < groups.length)
    (labels : List Key) (vals : List Val) :
    members (Int.ofNat j) (labels.map (codeOf groups)) vals = membersK (some groups[j]) labels vals :=
  members_map_keys _ _ _ _ _ fun l _ => codeOf_eq_iff_label groups hnd l j hj

theorem codeOf_eq_iff (sort : Bool) (keys : List Key) (k : Key) (i : Nat)
    (hi : i < (foundOf sort keys).length) :
    ((if codeOf (foundOf sort keys) k == -1 then ((foundOf sort keys).length : Int)
        else codeOf (foundOf sort keys) k) = Int.ofNat i) ↔ k = some (foundOf sort keys)[i] := by
  rw [← codeOf_eq_iff_label _ (nodup_foundOf sort keys) k i hi]
  by_cases h1 : codeOf (foundOf sort keys) k = -1
  · simp only [h1, BEq.rfl, if_true, Int.ofNat_eq_natCast]
    omega
  · rw [if_neg (by simpa using h1)]; rfl

theorem codeOf_eq_neg_one_iff (sort : Bool) (keys : List Key) (k : Key) (hk : k ∈ keys) :
    codeOf (foundOf sort keys) k = -1 ↔ k = none := by
  cases k with
  | none => simp [codeOf]
  | some r =>
    have hr : r ∈ foundOf sort keys := (mem_foundOf sort r keys).mpr hk
    obtain ⟨j, hj⟩ := indexOf?_isSome hr
    simp only [codeOf, hj, reduceCtorEq]

def sparseCols (ks : List Kernel) (fills : List Val) (found : List Rat) (keys : List Key) (vals : List Val) :
    List (List Val) :=
  (ks.zip fills).map fun p => found.map fun r => blockVal p.1 p.2 (membersK (some r) keys vals)

/-- what `chunk_reduce` (no `expected_groups`, `reindex=False`) returns for a block -/
def sparseInter (ks : List Kernel) (fills : List Val) (sort : Bool) (keys : List Key) (vals : List Val) : Inter :=
  if presentKeys keys = [] then { groups := [none], cols := (ks.zip fills).map fun p => [p.2] }
  else { groups := (foundOf sort keys).map some, cols := sparseCols ks fills (foundOf sort keys) keys vals }

theorem all_codes_neg_one_iff (sort : Bool) (keys : List Key) :
    ((keys.map (codeOf (foundOf sort keys))).all (· == -1)) = true ↔ presentKeys keys = [] := by
  rw [presentKeys_eq_nil_iff]
  simp only [List.all_map, List.all_eq_true, Function.comp, beq_iff_eq]
  constructor
  · intro h k hk; exact (codeOf_eq_neg_one_iff sort keys k hk).mp (h k hk)
  · intro h k hk; exact (codeOf_eq_neg_one_iff sort keys k hk).mpr (h k hk)

/-- `memberPos g codes` and `Spec.positions g codes` are `posWhere (· = g) codes 0` by definition -/
def posWhere {α} (p : α → Prop) [DecidablePred p] (l : List α) (n : Nat) : List Nat :=
  (l.zipIdx n).filterMap fun (a, i) => if p a then some i else none

abbrev memberPosK (κ : Key) (keys : List Key) : List Nat := posWhere (· = κ) keys 0

section PosWhere
variable {α β : Type} (p : α → Prop) [DecidablePred p]

theorem posWhere_cons (a : α) (l : List α) (n : Nat) :
    posWhere p (a :: l) n = if p a then n :: posWhere p l (n + 1) else posWhere p l (n + 1) := by
  unfold posWhere
  rw [List.zipIdx_cons, List.filterMap_cons]
  by_cases h : p a <;> simp [h]

theorem posWhere_map (q : β → Prop) [DecidablePred q] (f : β → α) (l : List β) (n : Nat)
    (h : ∀ b ∈ l, (p (f b) ↔ q b)) : posWhere p (l.map f) n = posWhere q l n := by
  induction l generalizing n with
  | nil => rfl
  | cons b l ih =>
    rw [List.map_cons, posWhere_cons, posWhere_cons, ih (n + 1) (fun b' hb' => h b' (by simp [hb']))]
    simp only [h b (by simp)]

theorem mem_posWhere (l : List α) (n i : Nat) :
    i ∈ posWhere p l n ↔ ∃ m a, i = n + m ∧ l[m]? = some a ∧ p a := by
  simp only [posWhere, List.mem_filterMap, Prod.exists, List.mk_mem_zipIdx_iff_le_and_getElem?_sub]
  constructor
  · rintro ⟨a, j, ⟨hj, ha⟩, h⟩
    split at h
    · cases h
      exact ⟨i - n, a, by omega, ha, ‹p a›⟩
    · cases h
  · rintro ⟨m, a, rfl, ha, hp⟩
    exact ⟨a, n + m, ⟨by omega, by simpa using ha⟩, by simp [hp]⟩

theorem pairwise_posWhere (l : List α) (n : Nat) : (posWhere p l n).Pairwise (· < ·) := by
  induction l generalizing n with
  | nil => simp [posWhere]
  | cons x l ih =>
    rw [posWhere_cons]
    split
    · refine List.pairwise_cons.mpr ⟨?_, ih (n + 1)⟩
      intro i hi
      obtain ⟨m, _, rfl, _⟩ := (mem_posWhere p l (n + 1) i).mp hi
      omega
    · exact ih (n + 1)

end PosWhere

theorem memberPos_map_keys (g : Int) (κ : Key) (φ : Key → Int) (keys : List Key)
    (h : ∀ k ∈ keys, (φ k = g ↔ k = κ)) : memberPos g (keys.map φ) = memberPosK κ keys :=
  posWhere_map (· = g) (· = κ) φ keys 0 h

/-- one slot of `argGrouped`, as a function of the positions of the group's members -/
def argOfPos (k : Kernel) (vals : List Val) (fill : Val) (pos : List Nat) : Val :=
  let pv := pos.map fun i => (i, vals.getD i Val.nan)
  let pv' := if k.skipsNaN then pv.filter (fun p => !p.2.isNaN) else pv
  if pv'.isEmpty then fill
  else
    let j := match kEval k (pv'.map (·.2)) with
      | .fin q => q.num.toNat
      | _ => 0
    Val.ofNat ((pv'.getD j (0, Val.nan)).1)

theorem argGrouped_eq (k : Kernel) (codes : List Int) (vals : List Val) (size : Nat) (fill : Val) :
    argGrouped k codes vals size fill
      = (List.range size).map fun (g : Nat) => argOfPos k vals fill (memberPos (Int.ofNat g) codes) := rfl

/-- one slot of one column of `chunk_reduce` (before `chunk_argreduce`'s index lookup) -/
def colSlot (k : Kernel) (fv : Val) (κ : Key) (keys : List Key) (vals : List Val) : Val :=
  if isArgKernel k then argOfPos k vals fv (memberPosK κ keys) else blockVal k fv (membersK κ keys vals)

/-- `chunk_reduce` without expected groups (numpy_groupies engine) returns the found labels (sorted or in
    first-appearance order; `[NaN]` when the block has no valid label) and, per found label, one slot in every column. -/
theorem chunkReduce_cols (ks : List Kernel) (fills : List Val) (keys : List Key) (vals : List Val) (sort : Bool)
    (hz : ∀ p ∈ ks.zip fills, (p.1 = .nanlen ∨ p.1 = .nansumsq) → p.2 = Val.zero) :
    chunkReduce .npg ks fills keys vals none sort
      = if presentKeys keys = [] then { groups := [none], cols := (ks.zip fills).map fun p => [p.2] }
        else { groups := (foundOf sort keys).map some,
               cols := (ks.zip fills).map fun p =>
                 (foundOf sort keys).map fun r => colSlot p.1 p.2 (some r) keys vals } := by
  simp only [chunkReduce, factorizeKeys_none]
  by_cases hp : presentKeys keys = []
  · have hempty := (all_codes_neg_one_iff sort keys).mpr hp
    simp only [hempty, hp, if_true, List.length_cons, List.length_nil, Nat.zero_add]
    congr 1
  · have hempty : ((keys.map (codeOf (foundOf sort keys))).all (· == -1)) = false := by
      simpa using (not_congr (all_codes_neg_one_iff sort keys)).mpr hp
    simp only [hempty, hp, Bool.false_eq_true, if_false]
    congr 1
    apply List.map_congr_left
    intro p hp'
    obtain ⟨k, fv⟩ := p
    have htake : ∀ b : Bool, (List.range (if b = true then (foundOf sort keys).length + 1
        else (foundOf sort keys).length)).take (foundOf sort keys).length
          = List.range (foundOf sort keys).length := by
      intro b; cases b <;> simp [List.take_range]
    by_cases hka : isArgKernel k = true
    · simp only [engineCall, hka, if_true, colSlot, argGrouped_eq]
      rw [← List.map_take, htake, List.map_map]
      exact map_range_eq_map rfl fun i hi =>
        congrArg _ (memberPos_map_keys _ _ _ _ fun k' _ => codeOf_eq_iff sort keys k' i hi)
    · have hka : isArgKernel k = false := by simpa using hka
      simp only [engineCall, hka, Bool.false_eq_true, if_false, engGrouped, colSlot]
      rw [npgGrouped_eq_blockVal k fv _ vals _ hka (hz (k, fv) hp'), ← List.map_take, htake, List.map_map]
      exact map_range_eq_map rfl fun i hi =>
        congrArg _ (members_map_keys _ _ _ _ _ fun k' _ => codeOf_eq_iff sort keys k' i hi)

theorem chunkReduce_sparse (ks : List Kernel) (fills : List Val) (keys : List Key) (vals : List Val) (sort : Bool)
    (hnoarg : ∀ k ∈ ks, isArgKernel k = false)
    (hz : ∀ p ∈ ks.zip fills, (p.1 = .nanlen ∨ p.1 = .nansumsq) → p.2 = Val.zero) :
    chunkReduce .npg ks fills keys vals none sort = sparseInter ks fills sort keys vals := by
  rw [chunkReduce_cols ks fills keys vals sort hz]
  unfold sparseInter sparseCols
  split
  · rfl
  · congr 1
    apply List.map_congr_left
    intro p hp
    simp only [colSlot, hnoarg p.1 (List.of_mem_zip hp).1, Bool.false_eq_true, if_false]

/-- the groups of a block's intermediate; `none` is the placeholder `NaN` of a block without valid label -/
def nodeGroups (sort : Bool) (keys : List Key) : List Key :=
  if presentKeys keys = [] then [none] else (foundOf sort keys).map some

def nodeCol (sort : Bool) (keys : List Key) (d : Val) (slot : Rat → Val) : List Val :=
  if presentKeys keys = [] then [d] else (foundOf sort keys).map slot

theorem sparseInter_eq (ks : List Kernel) (fills : List Val) (sort : Bool) (keys : List Key) (vals : List Val) :
    sparseInter ks fills sort keys vals
      = { groups := nodeGroups sort keys,
          cols := (ks.zip fills).map fun p =>
            nodeCol sort keys p.2 fun r => blockVal p.1 p.2 (membersK (some r) keys vals) } := by
  unfold sparseInter sparseCols nodeGroups nodeCol
  split <;> rfl

theorem sparseInter_groups (ks : List Kernel) (fills : List Val) (sort : Bool) (keys : List Key) (vals : List Val) :
    (sparseInter ks fills sort keys vals).groups = nodeGroups sort keys := by
  rw [sparseInter_eq]

theorem sparseInter_all_missing (ks : List Kernel) (fills : List Val) (sort : Bool) (keys : List Key)
    (vals : List Val) (h : presentKeys keys = []) :
    sparseInter ks fills sort keys vals
      = { groups := [none], cols := fcols ks fills [()] (fun _ => ([] : List Val)) } := by
  simp only [sparseInter, h, if_true, fcols, List.map_cons, List.map_nil]
  rfl

theorem sparseInter_present (ks : List Kernel) (fills : List Val) (sort : Bool) (keys : List Key)
    (vals : List Val) (h : presentKeys keys ≠ []) :
    sparseInter ks fills sort keys vals
      = { groups := (foundOf sort keys).map some,
          cols := fcols ks fills (foundOf sort keys) (fun r => membersK (some r) keys vals) } := by
  simp only [sparseInter, h, if_false]; rfl

theorem presentKeys_nodeGroups (sort : Bool) (keys : List Key) :
    presentKeys (nodeGroups sort keys) = foundOf sort keys := by
  unfold nodeGroups
  split
  · rename_i h; rw [foundOf, h, uniqOf_nil]; rfl
  · exact presentKeys_map_some _

theorem mem_nodeGroups (sort : Bool) (keys : List Key) (r : Rat) :
    some r ∈ nodeGroups sort keys ↔ some r ∈ keys := by
  rw [← mem_presentKeys, presentKeys_nodeGroups, mem_foundOf]

theorem nodeCol_eq_map (sort : Bool) (keys : List Key) (d : Val) (slot : Rat → Val) (φ : Key → Val)
    (h0 : φ none = d) (h : ∀ r, φ (some r) = slot r) : nodeCol sort keys d slot = (nodeGroups sort keys).map φ := by
  unfold nodeCol nodeGroups
  split
  · rw [List.map_singleton, h0]
  · rw [List.map_map]
    exact List.map_congr_left fun r _ => (h r).symm

theorem presentKeys_sparseInter (ks : List Kernel) (fills : List Val) (sort : Bool) (keys : List Key)
    (vals : List Val) : presentKeys (sparseInter ks fills sort keys vals).groups = foundOf sort keys := by
  rw [sparseInter_groups, presentKeys_nodeGroups]

abbrev SegsK := List (List Key × List Val)

def catKK (segs : SegsK) : List Key := (segs.map (·.1)).flatten
def catKV (segs : SegsK) : List Val := (segs.map (·.2)).flatten

def AlignedK (segs : SegsK) : Prop := ∀ p ∈ segs, p.1.length = p.2.length

@[simp] theorem catKK_nil : catKK [] = [] := rfl
@[simp] theorem catKV_nil : catKV [] = [] := rfl
@[simp] theorem catKK_cons (p : List Key × List Val) (segs : SegsK) : catKK (p :: segs) = p.1 ++ catKK segs := by
  simp [catKK]
@[simp] theorem catKV_cons (p : List Key × List Val) (segs : SegsK) : catKV (p :: segs) = p.2 ++ catKV segs := by
  simp [catKV]

theorem catKK_flatten (L : List SegsK) : catKK L.flatten = (L.map catKK).flatten := flatten_map_flatten _ L

theorem catKV_flatten (L : List SegsK) : catKV L.flatten = (L.map catKV).flatten := flatten_map_flatten _ L

theorem AlignedK.tail {p : List Key × List Val} {segs : SegsK} (h : AlignedK (p :: segs)) : AlignedK segs :=
  fun q hq => h q (by simp [hq])

theorem AlignedK.cat_length {segs : SegsK} (h : AlignedK segs) : (catKK segs).length = (catKV segs).length := by
  induction segs with
  | nil => rfl
  | cons p segs ih =>
    simp only [catKK_cons, catKV_cons, List.length_append, ih h.tail, h p (by simp)]

theorem membersK_cat (κ : Key) (segs : SegsK) (h : AlignedK segs) :
    membersK κ (catKK segs) (catKV segs) = (segs.map fun p => membersK κ p.1 p.2).flatten := by
  induction segs with
  | nil => simp
  | cons p segs ih =>
    simp only [catKK_cons, catKV_cons, List.map_cons, List.flatten_cons]
    rw [membersK_append κ _ _ _ _ (h p (by simp)), ih h.tail]

theorem mem_catKK {k : Key} {segs : SegsK} : k ∈ catKK segs ↔ ∃ p ∈ segs, k ∈ p.1 := by
  rw [catKK, ← List.flatMap_def]; exact List.mem_flatMap

theorem mem_catKV {v : Val} {segs : SegsK} : v ∈ catKV segs ↔ ∃ p ∈ segs, v ∈ p.2 := by
  rw [catKV, ← List.flatMap_def]; exact List.mem_flatMap

/-- the (keys, values) blocks of a chunked array -/
def segsOfK (chunks : List Nat) (keys : List Key) (vals : List Val) : SegsK :=
  (splitBy chunks keys).zip (splitBy chunks vals)

theorem segsOfK_aligned (chunks : List Nat) (keys : List Key) (vals : List Val)
    (hlen : keys.length = vals.length) : AlignedK (segsOfK chunks keys vals) :=
  splitBy_zip_aligned chunks keys vals hlen

theorem segsOfK_catKK (chunks : List Nat) (keys : List Key) (vals : List Val)
    (h : keys.length ≤ chunks.sum) : catKK (segsOfK chunks keys vals) = keys :=
  splitBy_zip_fst chunks keys vals h

theorem segsOfK_catKV (chunks : List Nat) (keys : List Key) (vals : List Val)
    (h : vals.length ≤ chunks.sum) : catKV (segsOfK chunks keys vals) = vals :=
  splitBy_zip_snd chunks keys vals h

theorem segsOfK_ne_nil (chunks : List Nat) (keys : List Key) (vals : List Val) (h : chunks ≠ []) :
    segsOfK chunks keys vals ≠ [] :=
  splitBy_zip_ne_nil chunks keys vals h

theorem foundOf_nodes (sort : Bool) (segs : SegsK) (G : List Key)
    (hG : presentKeys G = segs.flatMap fun p => foundOf sort p.1) :
    foundOf sort G = foundOf sort (catKK segs) := by
  have h1 : (segs.flatMap fun p => foundOf sort p.1)
      = (segs.map fun p => presentKeys p.1).flatMap (uniqOf sort) := by
    simp [List.flatMap_map, foundOf]
  rw [foundOf, hG, h1, uniqOf_flatMap, foundOf, catKK, presentKeys_flatten, List.map_map]
  rfl

theorem presentKeys_nodes {σ} (sort : Bool) (keysOf : σ → List Key) (segs : List σ) (node : σ → Inter)
    (hnode : ∀ p ∈ segs, presentKeys (node p).groups = foundOf sort (keysOf p)) :
    presentKeys ((segs.map node).flatMap (·.groups)) = segs.flatMap fun p => foundOf sort (keysOf p) := by
  induction segs with
  | nil => rfl
  | cons p segs ih =>
    simp only [List.map_cons, List.flatMap_cons, presentKeys_append, hnode p (by simp)]
    rw [ih (fun q hq => hnode q (by simp [hq]))]

theorem presentKeys_nil_iff_foundOf (sort : Bool) (keys : List Key) :
    presentKeys keys = [] ↔ foundOf sort keys = [] := (uniqOf_eq_nil_iff sort _).symm

theorem nodeGroups_ne_nil (sort : Bool) (keys : List Key) : nodeGroups sort keys ≠ [] := by
  unfold nodeGroups
  split
  · simp
  · rename_i h
    simpa using mt (presentKeys_nil_iff_foundOf sort keys).mpr h

theorem nodeCol_length (sort : Bool) (keys : List Key) (d : Val) (slot : Rat → Val) :
    (nodeCol sort keys d slot).length = (nodeGroups sort keys).length := by
  unfold nodeGroups nodeCol
  split <;> simp

theorem foundCol_congr {α} (sort : Bool) {G K : List Key} (h : foundOf sort G = foundOf sort K) (d : List α)
    (slot slot' : Rat → α) (hs : ∀ r ∈ foundOf sort K, slot r = slot' r) :
    (if presentKeys G = [] then d else (foundOf sort G).map slot)
      = if presentKeys K = [] then d else (foundOf sort K).map slot' := by
  simp only [presentKeys_nil_iff_foundOf sort, h]
  rw [List.map_congr_left hs]

theorem membersK_flatMap (κ : Key) (xs : List Inter) (j : Nat)
    (hal : ∀ x ∈ xs, x.groups.length = (colAt x j).length) :
    membersK κ (xs.flatMap (·.groups)) (xs.flatMap (colAt · j))
      = xs.flatMap fun x => membersK κ x.groups (colAt x j) := by
  have h := membersK_cat κ (xs.map fun x => (x.groups, colAt x j)) (by
    intro p hp
    obtain ⟨x, hx, rfl⟩ := List.mem_map.mp hp
    exact hal x hx)
  simpa only [catKK, catKV, List.map_map, List.flatMap_def, Function.comp_def] using h

theorem membersK_map_some (r : Rat) (found : List Rat) (h : Rat → Val) (hnd : found.Nodup) :
    membersK (some r) (found.map some) (found.map h) = if r ∈ found then [h r] else [] := by
  induction found with
  | nil => simp
  | cons y ys ih =>
    have hy := List.nodup_cons.mp hnd
    simp only [List.map_cons, membersK_cons, Option.some.injEq, ih hy.2]
    by_cases e : y = r
    · subst e
      simp [hy.1]
    · have : ¬ r = y := fun e' => e e'.symm
      simp [e, this]

theorem flatMap_ite_singleton {α β} (l : List α) (q : α → Prop) [DecidablePred q] (h : α → β) :
    (l.flatMap fun p => if q p then [h p] else []) = (l.filter fun p => decide (q p)).map h := by
  induction l with
  | nil => rfl
  | cons a l ih =>
    by_cases hq : q a <;> simp [List.flatMap_cons, hq, ih]

theorem flatten_map_filter {α β} (l : List α) (q : α → Bool) (h : α → List β)
    (hq : ∀ p ∈ l, q p = false → h p = []) :
    ((l.filter q).map h).flatten = (l.map h).flatten := by
  induction l with
  | nil => rfl
  | cons a l ih =>
    have ih' := ih (fun p hp => hq p (by simp [hp]))
    by_cases hqa : q a = true
    · simp [hqa, ih']
    · have := hq a (by simp) (by simpa using hqa)
      simp [hqa, ih', this]

theorem membersK_node_col (sort : Bool) (keys : List Key) (r : Rat) (d : Val) (slot : Rat → Val) :
    membersK (some r) (nodeGroups sort keys) (nodeCol sort keys d slot)
      = if r ∈ foundOf sort keys then [slot r] else [] := by
  unfold nodeGroups nodeCol
  by_cases hp : presentKeys keys = []
  · have : foundOf sort keys = [] := (presentKeys_nil_iff_foundOf sort keys).mp hp
    simp [hp, this]
  · simp only [hp, if_false]
    exact membersK_map_some r _ _ (nodup_foundOf sort keys)

section Nodes

variable {σ : Type} (sort : Bool) (keysOf : σ → List Key) (node : σ → Inter) (j : Nat) (d : Val) (slot : σ → Rat → Val)

theorem nodes_col_length (segs : List σ)
    (hg : ∀ p, (node p).groups = nodeGroups sort (keysOf p))
    (hc : ∀ p, colAt (node p) j = nodeCol sort (keysOf p) d (slot p)) :
    ((segs.map node).flatMap (·.groups)).length = ((segs.map node).flatMap (colAt · j)).length := by
  induction segs with
  | nil => rfl
  | cons p segs ih =>
    simp only [List.map_cons, List.flatMap_cons, List.length_append, ih]
    congr 1
    rw [hg, hc, nodeCol_length]

theorem membersK_nodes (segs : List σ) (r : Rat)
    (hg : ∀ p, (node p).groups = nodeGroups sort (keysOf p))
    (hc : ∀ p, colAt (node p) j = nodeCol sort (keysOf p) d (slot p)) :
    membersK (some r) ((segs.map node).flatMap (·.groups)) ((segs.map node).flatMap (colAt · j))
      = (segs.filter fun p => decide (r ∈ foundOf sort (keysOf p))).map fun p => slot p r := by
  rw [membersK_flatMap _ _ _ (by
    intro x hx
    obtain ⟨p, _, rfl⟩ := List.mem_map.mp hx
    rw [hg, hc, nodeCol_length])]
  rw [List.flatMap_map]
  have hnode : ∀ p : σ, membersK (some r) (node p).groups (colAt (node p) j)
      = if r ∈ foundOf sort (keysOf p) then [slot p r] else [] := by
    intro p; rw [hg, hc]; exact membersK_node_col sort (keysOf p) r d (slot p)
  simp only [hnode]
  exact flatMap_ite_singleton segs (fun p => r ∈ foundOf sort (keysOf p)) (fun p => slot p r)

end Nodes

theorem membersK_codeKeys (g : Int) (codes : List Int) (vals : List Val) :
    membersK (some (g : Rat)) (codeKeys codes) vals = members g codes vals := by
  rw [members_eq_filter, membersK_eq_filter]
  exact filter_zip_map_left _ g _ codes vals fun c _ => by simp [Rat.intCast_inj]

theorem presentKeys_codeKeys (codes : List Int) :
    presentKeys (codeKeys codes) = codes.map fun (c : Int) => (c : Rat) := by
  simp [presentKeys, List.filterMap_map, Function.comp_def]

/-- The groups of `x` are the keys of the codes, in any order (the placeholder `none` alone when there is no
    element); `a κ` is the finalized value of group `κ`.  `hdrop`: the count mask also runs over the group `-1` of the
    dropped elements, which is not requested; and without any element the placeholder is masked, so a label must be
    requested. -/
theorem finish_keys (c : Call) (R' : Resolved) (n : Nat) (x : Inter) (codes : List Int) (vals : List Val)
    (a : Key → Val) (hn : c.ngroups = n) (hcodes : CodesOK codes n) (hlen : codes.length = vals.length)
    (hG : x.groups ≠ [])
    (hex : ∀ κ ∈ x.groups, κ ∈ codeKeys codes ∨ (κ = none ∧ codes = []))
    (hcov : ∀ κ ∈ codeKeys codes, κ ∈ x.groups)
    (hv : finalizeVals R' (if R'.minCount > 0 then x.cols.dropLast else x.cols) = x.groups.map a)
    (hc : R'.minCount > 0 → x.cols.getLastD []
      = x.groups.map fun κ => countVal (membersK κ (codeKeys codes) vals))
    (hdrop : R'.minCount > 0 → R'.userFill = none →
      (codes = [] → 0 < n) ∧
      ((-1 : Int) ∈ codes → R'.minCount ≤ Spec.validCount (members (-1) codes vals))) :
    (match finalizeResults R' x (some (rangeKeys n)) false with
      | .error e => .error e
      | .ok (gs, vs) => finalReindex c false gs vs)
      = (List.range n).mapM fun (g : Nat) =>
          if members (Int.ofNat g) codes vals = [] then fillOrError R'.userFill
          else maskedSlot R' (countVal (members (Int.ofNat g) codes vals)) (a (some ((Int.ofNat g : Int) : Rat))) := by
  have hklen := codeKeys_length codes
  have hmem : ∀ g : Nat,
      (some ((Int.ofNat g : Int) : Rat) : Key) ∈ x.groups ↔ members (Int.ofNat g) codes vals ≠ [] := by
    intro g
    rw [← membersK_codeKeys]
    constructor
    · intro h
      rcases hex _ h with h | ⟨h, _⟩
      · exact membersK_ne_nil_of_mem _ _ _ h (by omega)
      · cases h
    · intro h
      exact hcov _ (Classical.byContradiction fun hnot => h (membersK_eq_nil_of_not_mem _ _ _ hnot))
  refine (finish_groups c R' n x a (fun κ => countVal (membersK κ (codeKeys codes) vals)) hn hG hv hc ?_).trans ?_
  · intro κ hκ hκT hs
    obtain ⟨_, huf, hmc, hcb⟩ := maskedSlot_error R' _ _ _ hs
    obtain ⟨hd1, hd2⟩ := hdrop hmc huf
    rcases hex κ hκ with hk | ⟨_, hnil⟩
    · exfalso
      obtain ⟨cd, hcd, rfl⟩ := List.mem_map.mp hk
      have hb := hcodes cd hcd
      by_cases h0 : 0 ≤ cd
      · refine hκT ((mem_rangeKeys _ n).mpr ⟨cd.toNat, by omega, ?_⟩)
        rw [natCast_rat_eq, Int.ofNat_eq_natCast, Int.toNat_of_nonneg h0]
      · have hcd1 : cd = -1 := by omega
        subst hcd1
        rw [membersK_codeKeys, countBelow_countVal] at hcb
        have := hd2 hcd
        have : Spec.validCount (members (-1) codes vals) < R'.minCount := by simpa using hcb
        omega
    · -- no element at all: label 0 is requested and absent
      subst hnil
      exact ⟨0, hd1 rfl, fun h => (hmem 0).mp h rfl⟩
  · apply mapM_congr
    intro g _
    rw [natCast_rat_eq g]
    by_cases hm : members (Int.ofNat g) codes vals = []
    · rw [if_neg (fun h => (hmem g).mp h hm), if_pos hm]
    · rw [if_pos ((hmem g).mpr hm), if_neg hm, membersK_codeKeys]

end Flox.Grp

namespace Flox

/-- members of the group with key `κ` (keys inside the pipeline are the integer codes, as rationals) -/
def keyMembers (κ : Key) (codes : List Int) (vals : List Val) : List Val :=
  match κ with
  | some r => if r.den = 1 then members r.num codes vals else []
  | none => []

@[simp] theorem keyMembers_none (codes : List Int) (vals : List Val) : keyMembers none codes vals = [] := rfl

@[simp] theorem keyMembers_code (c : Int) (codes : List Int) (vals : List Val) :
    keyMembers (some (c : Rat)) codes vals = members c codes vals := by
  simp [keyMembers]

theorem keyMembers_nat (g : Nat) (codes : List Int) (vals : List Val) :
    keyMembers (some ((g : Nat) : Rat)) codes vals = members (Int.ofNat g) codes vals := by
  rw [Grp.natCast_rat_eq, keyMembers_code]

theorem keyMembers_cat (κ : Key) (segs : Segs) (h : Aligned segs) :
    keyMembers κ (catC segs) (catV segs) = (segs.map fun p => keyMembers κ p.1 p.2).flatten := by
  cases κ with
  | none => simp [keyMembers]
  | some r =>
    by_cases hd : r.den = 1
    · simp only [keyMembers, hd, if_true]
      exact members_cat _ segs h
    · simp [keyMembers, hd]

def spInter (ks : List Kernel) (fills : List Val) (G : List Key) (codes : List Int) (vals : List Val) : Inter :=
  { groups := G, cols := fcols ks fills G (fun κ => keyMembers κ codes vals) }

/-- the labels a block announces: distinct codes, ascending (`sort`) or in order of first appearance -/
def BW.labelsOf (sort : Bool) (cs : List Int) : List Rat := Grp.uniqOf sort (cs.map fun (c : Int) => (c : Rat))

/-- the groups `chunk_reduce(…, expected_groups=None)` finds in a block: its distinct codes (`-1` included), or the one
    NaN placeholder when the block has no element -/
def blockGroups (sort : Bool) (codes : List Int) : List Key :=
  if codes = [] then [none] else (BW.labelsOf sort codes).map some

theorem keyMembers_eq_membersK (κ : Key) (codes : List Int) (vals : List Val) :
    keyMembers κ codes vals = Grp.membersK κ (codeKeys codes) vals := by
  cases κ with
  | none => exact (Grp.membersK_eq_nil_of_not_mem _ _ _ (by simp [codeKeys])).symm
  | some r =>
    by_cases hd : r.den = 1
    · have hr : ((r.num : Int) : Rat) = r := Rat.ext rfl hd.symm
      rw [← hr, keyMembers_code, Grp.membersK_codeKeys]
    · have : (some r : Key) ∉ codeKeys codes := by
        simp only [codeKeys, List.mem_map, Option.some.injEq, not_exists, not_and]
        intro c _ e
        exact hd (e ▸ Rat.den_intCast c)
      rw [Grp.membersK_eq_nil_of_not_mem _ _ _ this]
      simp [keyMembers, hd]

theorem chunkReduce_sparse_codes (ks : List Kernel) (fills : List Val) (codes : List Int) (vals : List Val) (sort : Bool)
    (hnoarg : ∀ k ∈ ks, isArgKernel k = false)
    (hz : ∀ p ∈ ks.zip fills, (p.1 = .nanlen ∨ p.1 = .nansumsq) → p.2 = Val.zero) :
    chunkReduce .npg ks fills (codes.map fun (c : Int) => (some (c : Rat) : Key)) vals none sort
      = spInter ks fills (blockGroups sort codes) codes vals := by
  rw [show (codes.map fun (c : Int) => (some (c : Rat) : Key)) = codeKeys codes from rfl,
    Grp.chunkReduce_sparse ks fills (codeKeys codes) vals sort hnoarg hz]
  unfold Grp.sparseInter spInter blockGroups BW.labelsOf Grp.foundOf
  rw [Grp.presentKeys_codeKeys]
  by_cases hc : codes = []
  · subst hc; rfl
  · simp only [List.map_eq_nil_iff, hc, if_false, Grp.sparseCols, fcols, List.map_map, Function.comp_def,
      keyMembers_eq_membersK]

end Flox
