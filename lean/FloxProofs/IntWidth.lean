/-
  C20 (second sentence) — proofs about the width-aware accumulation model `FloxModel/IntWidth.lean`.  Two independent
  routes to "the accumulated value is the exact total".  No overflow happens (`accW_exact`): if every prefix result is
  representable, the wrapping fold equals the exact fold, for ANY reduction `wrap` that is the identity on representable
  values (two's complement, saturation, a trap …: the statement does not depend on what the hardware does on overflow).
  Two's complement is a ring homomorphism (`accW_eq_wrap_fold`, `chunkedAcc_eq_wrap_total`): with `wrapS` / `wrapU` every
  engine, every chunking, every tree and every order returns `wrap (exact total)`; hence the result is exact as soon as
  the TOTAL is representable (even if intermediate results were not).
-/
import FloxModel.IntWidth
import FloxProofs.Monoid

namespace Flox.IntWidth

def absSum (xs : List Int) : Nat := (xs.map Int.natAbs).sum

def absProd (xs : List Int) : Nat := (xs.map Int.natAbs).prod

theorem absSum_nil : absSum [] = 0 := rfl
theorem absSum_cons (x : Int) (t : List Int) : absSum (x :: t) = x.natAbs + absSum t := rfl

theorem accW_cons (wrap : Int → Int) (op : Int → Int → Int) (a x : Int) (t : List Int) :
    accW wrap op a (x :: t) = accW wrap op (wrap (op a x)) t := rfl

theorem engineAcc_castFirst (op : Int → Int → Int) (e : Int) (wrapIn wrap : Int → Int) (xs : List Int) :
    engineAcc op e true wrapIn wrap xs = accW wrap op e (xs.map wrap) := rfl

theorem chunkedAcc_leaf (op : Int → Int → Int) (e : Int) (c : Bool) (wrapIn wrap : Int → Int) (b : List Int) :
    chunkedAcc op e c wrapIn wrap (.leaf b) = engineAcc op e c wrapIn wrap b := rfl

theorem chunkedAcc_node (op : Int → Int → Int) (e : Int) (c : Bool) (wrapIn wrap : Int → Int) (ts : WForest) :
    chunkedAcc op e c wrapIn wrap (.node ts) =
      accW wrap op e (ts.evals (engineAcc op e c wrapIn wrap) (accW wrap op e)) := rfl

theorem eval_eq_chunkedAcc (op : Int → Int → Int) (e : Int) (c : Bool) (wrapIn wrap : Int → Int) (t : WTree) :
    t.eval (engineAcc op e c wrapIn wrap) (accW wrap op e) = chunkedAcc op e c wrapIn wrap t := rfl

theorem foldl_add_zero (xs : List Int) : xs.foldl (· + ·) 0 = xs.sum := List.sum_eq_foldl.symm
theorem foldl_mul_one (xs : List Int) : xs.foldl (· * ·) 1 = xs.prod := List.prod_eq_foldl.symm

theorem perm_sum {l₁ l₂ : List Int} (h : l₁.Perm l₂) : l₁.sum = l₂.sum := by
  rw [← foldl_add_zero, ← foldl_add_zero]
  exact h.foldl_eq' (fun x _ y _ z => by omega) 0

theorem natAbs_sum_le (xs : List Int) : xs.sum.natAbs ≤ absSum xs := by
  induction xs with
  | nil => simp [absSum_nil]
  | cons x t ih =>
    have := Int.natAbs_add_le x t.sum
    rw [absSum_cons, List.sum_cons]
    omega

theorem natAbs_prod (xs : List Int) : xs.prod.natAbs = absProd xs := by
  induction xs with
  | nil => simp [absProd]
  | cons x t ih => simp only [absProd, List.map_cons, List.prod_cons, Int.natAbs_mul] at ih ⊢; rw [ih]

private theorem absSum_append (a b : List Int) : absSum (a ++ b) = absSum a + absSum b := by
  simp [absSum, List.sum_append]

theorem absSum_take_le (xs : List Int) (k : Nat) : absSum (xs.take k) ≤ absSum xs := by
  have h := absSum_append (xs.take k) (xs.drop k)
  rw [List.take_append_drop] at h
  omega

theorem wrapS_of_inS {w : Nat} (hw : 1 ≤ w) {x : Int} (h : inS w x) : wrapS w x = x := by
  unfold wrapS
  unfold inS at h
  have hp := (Nat.two_pow_pred_mul_two hw).symm
  apply Int.bmod_eq_of_le <;> rw [hp] <;> generalize 2 ^ (w - 1) = H at * <;> omega

theorem wrapS_inS {w : Nat} (hw : 1 ≤ w) (x : Int) : inS w (wrapS w x) := by
  have hpos : 0 < 2 ^ w := Nat.two_pow_pos w
  have h1 := @Int.le_bmod x (2 ^ w) hpos
  have h2 := @Int.bmod_lt x (2 ^ w) hpos
  have hp := (Nat.two_pow_pred_mul_two hw).symm
  unfold inS wrapS
  rw [hp] at h1 h2 ⊢
  generalize 2 ^ (w - 1) = H at *
  generalize Int.bmod x (2 * H) = r at *
  omega

theorem wrapU_of_inU {w : Nat} {x : Int} (h : inU w x) : wrapU w x = x :=
  Int.emod_eq_of_lt h.1 h.2

theorem wrapU_inU (w : Nat) (x : Int) : inU w (wrapU w x) := by
  have hpos : (0 : Int) < (2 ^ w : Nat) := Int.natCast_pos.mpr (Nat.two_pow_pos w)
  exact ⟨Int.emod_nonneg _ (by omega), Int.emod_lt_of_pos _ hpos⟩

theorem inS_mono {w₁ w₂ : Nat} (h : w₁ ≤ w₂) {x : Int} (hx : inS w₁ x) : inS w₂ x := by
  have hp : 2 ^ (w₁ - 1) ≤ 2 ^ (w₂ - 1) := Nat.pow_le_pow_right (by decide) (by omega)
  unfold inS at *
  generalize 2 ^ (w₁ - 1) = A at *
  generalize 2 ^ (w₂ - 1) = B at *
  omega

theorem inU_mono {w₁ w₂ : Nat} (h : w₁ ≤ w₂) {x : Int} (hx : inU w₁ x) : inU w₂ x := by
  have hp : 2 ^ w₁ ≤ 2 ^ w₂ := Nat.pow_le_pow_right (by decide) h
  unfold inU at *
  generalize 2 ^ w₁ = A at *
  generalize 2 ^ w₂ = B at *
  omega

theorem inS_of_natAbs_lt {w : Nat} {x : Int} (h : x.natAbs < 2 ^ (w - 1)) : inS w x := by
  unfold inS
  generalize 2 ^ (w - 1) = H at *
  omega

theorem accW_exact (wrap : Int → Int) (R : Int → Prop) (hR : ∀ x, R x → wrap x = x) (op : Int → Int → Int)
    (init : Int) (xs : List Int)
    (hpre : ∀ k, k < xs.length → R ((xs.take (k + 1)).foldl op init)) :
    accW wrap op init xs = xs.foldl op init := by
  induction xs generalizing init with
  | nil => rfl
  | cons x t ih =>
    have h1 : R (op init x) := by simpa using hpre 0 (by simp)
    rw [accW_cons, List.foldl_cons, hR _ h1]
    apply ih
    intro k hk
    simpa using hpre (k + 1) (by simpa using hk)

theorem engineAcc_castFirst_exact (wrapIn wrapAcc : Int → Int) (R : Int → Prop) (hR : ∀ x, R x → wrapAcc x = x)
    (op : Int → Int → Int) (init : Int) (xs : List Int) (hin : ∀ x ∈ xs, R x)
    (hpre : ∀ k, k < xs.length → R ((xs.take (k + 1)).foldl op init)) :
    engineAcc op init true wrapIn wrapAcc xs = xs.foldl op init := by
  have hmap : xs.map wrapAcc = xs := by
    rw [List.map_congr_left (g := id) (fun x hx => hR x (hin x hx)), List.map_id]
  rw [engineAcc_castFirst, hmap]
  exact accW_exact wrapAcc R hR op init xs hpre

theorem prefix_sums_inS_of_abs_bound {w : Nat} (xs : List Int) (h : absSum xs < 2 ^ (w - 1)) (k : Nat) :
    inS w ((xs.take k).foldl (· + ·) 0) := by
  rw [foldl_add_zero]
  apply inS_of_natAbs_lt
  have h1 := natAbs_sum_le (xs.take k)
  have h2 := absSum_take_le xs k
  omega

/-- `wrap` respects `op` modulo its kernel -/
structure ModWrap (wrap : Int → Int) (op : Int → Int → Int) : Prop where
  left : ∀ a b, wrap (op (wrap a) b) = wrap (op a b)
  right : ∀ a b, wrap (op a (wrap b)) = wrap (op a b)
  idem : ∀ a, wrap (wrap a) = wrap a

structure Mon (op : Int → Int → Int) (e : Int) : Prop where
  assoc : ∀ a b c, op (op a b) c = op a (op b c)
  id_left : ∀ a, op e a = a
  id_right : ∀ a, op a e = a

theorem modWrap_S_add (w : Nat) : ModWrap (wrapS w) (· + ·) :=
  ⟨fun _ _ => Int.bmod_add_bmod, fun _ _ => Int.add_bmod_bmod, fun _ => Int.bmod_bmod⟩

theorem modWrap_S_mul (w : Nat) : ModWrap (wrapS w) (· * ·) :=
  ⟨fun _ _ => Int.bmod_mul_bmod, fun _ _ => Int.mul_bmod_bmod, fun _ => Int.bmod_bmod⟩

theorem modWrap_U_add (w : Nat) : ModWrap (wrapU w) (· + ·) :=
  ⟨fun a b => Int.emod_add_emod a _ b, fun a b => Int.add_emod_emod a b _, fun a => Int.emod_emod a _⟩

theorem modWrap_U_mul (w : Nat) : ModWrap (wrapU w) (· * ·) := by
  refine ⟨fun a b => ?_, fun a b => ?_, fun a => Int.emod_emod a _⟩
  · show (a % _ * b) % _ = (a * b) % _
    rw [Int.mul_emod, Int.emod_emod, ← Int.mul_emod]
  · show (a * (b % _)) % _ = (a * b) % _
    rw [Int.mul_emod, Int.emod_emod, ← Int.mul_emod]

theorem mon_add : Mon (· + ·) 0 := ⟨Int.add_assoc, Int.zero_add, Int.add_zero⟩
theorem mon_mul : Mon (· * ·) 1 := ⟨Int.mul_assoc, Int.one_mul, Int.mul_one⟩

section
variable {wrap : Int → Int} {op : Int → Int → Int}

private theorem ModWrap.congr_left (h : ModWrap wrap op) {a a' : Int} (b : Int) (e : wrap a = wrap a') :
    wrap (op a b) = wrap (op a' b) := by
  rw [← h.left a b, e, h.left]

private theorem ModWrap.foldl_congr (h : ModWrap wrap op) (xs : List Int) {a a' : Int} (e : wrap a = wrap a') :
    wrap (xs.foldl op a) = wrap (xs.foldl op a') := by
  induction xs generalizing a a' with
  | nil => exact e
  | cons x t ih => exact ih (h.congr_left x e)

private theorem ModWrap.foldl_map (h : ModWrap wrap op) (xs : List Int) (a : Int) :
    wrap ((xs.map wrap).foldl op a) = wrap (xs.foldl op a) := by
  induction xs generalizing a with
  | nil => rfl
  | cons x t ih =>
    simp only [List.map_cons, List.foldl_cons]
    rw [ih]
    exact h.foldl_congr t (h.right a x)

private theorem accW_wrapped (h : ModWrap wrap op) (xs : List Int) {a : Int} (ha : wrap a = a) :
    wrap (accW wrap op a xs) = accW wrap op a xs := by
  induction xs generalizing a with
  | nil => exact ha
  | cons x t ih => exact ih (h.idem _)

private theorem accW_mod (h : ModWrap wrap op) (xs : List Int) (a : Int) :
    wrap (accW wrap op a xs) = wrap (xs.foldl op a) := by
  induction xs generalizing a with
  | nil => rfl
  | cons x t ih =>
    rw [accW_cons, List.foldl_cons, ih]
    exact h.foldl_congr t (h.idem _)

theorem accW_eq_wrap_fold (h : ModWrap wrap op) (xs : List Int) {a : Int} (ha : wrap a = a) :
    accW wrap op a xs = wrap (xs.foldl op a) := by
  rw [← accW_wrapped h xs ha, accW_mod h]

theorem engineAcc_castFirst_eq_wrap (h : ModWrap wrap op) (wrapIn : Int → Int) (xs : List Int) {e : Int}
    (he : wrap e = e) : engineAcc op e true wrapIn wrap xs = wrap (xs.foldl op e) := by
  rw [engineAcc_castFirst, accW_eq_wrap_fold h _ he, h.foldl_map]

mutual
theorem chunkedAcc_eq_wrap_total (h : ModWrap wrap op) {e : Int} (m : Mon op e) (he : wrap e = e)
    (wrapIn : Int → Int) : (t : WTree) →
    chunkedAcc op e true wrapIn wrap t = wrap (t.leaves.foldl op e)
  | .leaf b => by
    rw [chunkedAcc_leaf, engineAcc_castFirst_eq_wrap h wrapIn b he]; rfl
  | .node ts => by
    rw [chunkedAcc_node, accW_eq_wrap_fold h _ he, forest_evals_mod h m he wrapIn ts e, m.id_left]; rfl
theorem forest_evals_mod (h : ModWrap wrap op) {e : Int} (m : Mon op e) (he : wrap e = e)
    (wrapIn : Int → Int) : (ts : WForest) → (a : Int) →
    wrap ((ts.evals (engineAcc op e true wrapIn wrap) (accW wrap op e)).foldl op a)
      = wrap (op a (ts.leaves.foldl op e))
  | .one t, a => by
    simp only [WForest.evals, WForest.leaves, List.foldl_cons, List.foldl_nil, eval_eq_chunkedAcc,
      chunkedAcc_eq_wrap_total h m he wrapIn t]
    exact h.right _ _
  | .cons t ts, a => by
    simp only [WForest.evals, WForest.leaves, List.foldl_cons, eval_eq_chunkedAcc,
      chunkedAcc_eq_wrap_total h m he wrapIn t]
    rw [forest_evals_mod h m he wrapIn ts, (Flox.Mon.mk m.assoc m.id_left m.id_right).foldl_append, ← m.assoc]
    exact h.congr_left _ (h.right _ _)
end

theorem exact_all_plans (h : ModWrap wrap op) {e : Int} (m : Mon op e) (comm : ∀ a b, op a b = op b a)
    (he : wrap e = e) (wrapIn : Int → Int) (xs : List Int) (hx : wrap (xs.foldl op e) = xs.foldl op e) :
    engineAcc op e true wrapIn wrap xs = xs.foldl op e ∧
    ∀ t : WTree, t.leaves.Perm xs → chunkedAcc op e true wrapIn wrap t = xs.foldl op e := by
  refine ⟨by rw [engineAcc_castFirst_eq_wrap h wrapIn xs he, hx], fun t hp => ?_⟩
  rw [chunkedAcc_eq_wrap_total h m he, hp.foldl_eq' (fun x _ y _ z => by rw [m.assoc, comm x y, ← m.assoc]), hx]

end

private theorem wrapS_zero (w : Nat) : wrapS w 0 = 0 := by simp [wrapS]
private theorem wrapU_zero (w : Nat) : wrapU w 0 = 0 := by simp [wrapU]
private theorem wrapS_one {w : Nat} (hw : 2 ≤ w) : wrapS w 1 = 1 := by
  apply wrapS_of_inS (by omega)
  have : 2 ^ 1 ≤ 2 ^ (w - 1) := Nat.pow_le_pow_right (by decide) (by omega)
  unfold inS
  generalize 2 ^ (w - 1) = H at *
  omega
private theorem wrapU_one {w : Nat} (hw : 1 ≤ w) : wrapU w 1 = 1 := by
  apply wrapU_of_inU
  have : 2 ^ 1 ≤ 2 ^ w := Nat.pow_le_pow_right (by decide) hw
  unfold inU
  generalize 2 ^ w = H at *
  omega

theorem accW_sum_eq_wrap (w : Nat) (xs : List Int) : accW (wrapS w) (· + ·) 0 xs = wrapS w xs.sum := by
  rw [accW_eq_wrap_fold (modWrap_S_add w) xs (wrapS_zero w), foldl_add_zero]

theorem accW_prod_eq_wrap {w : Nat} (hw : 2 ≤ w) (xs : List Int) :
    accW (wrapS w) (· * ·) 1 xs = wrapS w xs.prod := by
  rw [accW_eq_wrap_fold (modWrap_S_mul w) xs (wrapS_one hw), foldl_mul_one]

theorem chunkedSum_eq_wrap (wIn wAcc : Nat) (t : WTree) :
    chunkedSum true wIn wAcc t = wrapS wAcc t.leaves.sum := by
  unfold chunkedSum
  rw [chunkedAcc_eq_wrap_total (modWrap_S_add wAcc) mon_add (wrapS_zero wAcc), foldl_add_zero]

/-! With `Σ|x_i| < 2^(w-1)` no step of any tree overflows. -/

theorem perm_absSum {l₁ l₂ : List Int} (h : l₁.Perm l₂) : absSum l₁ = absSum l₂ := (h.map _).sum_nat

private theorem mem_inS_of_abs_bound {w : Nat} {xs : List Int} (h : absSum xs < 2 ^ (w - 1)) :
    ∀ x ∈ xs, inS w x := by
  induction xs with
  | nil => intro x hx; cases hx
  | cons y t ih =>
    rw [absSum_cons] at h
    intro x hx
    rcases List.mem_cons.mp hx with rfl | hx
    · exact inS_of_natAbs_lt (by omega)
    · exact ih (by omega) x hx

section
variable {w : Nat} {wrapIn wrapAcc : Int → Int}

mutual
private theorem tree_sum_noOverflow (hR : ∀ x, inS w x → wrapAcc x = x) : (t : WTree) →
    absSum t.leaves < 2 ^ (w - 1) → chunkedAcc (· + ·) 0 true wrapIn wrapAcc t = t.leaves.sum
  | .leaf b, hb => by
    rw [chunkedAcc_leaf, engineAcc_castFirst_exact wrapIn wrapAcc (inS w) hR (· + ·) 0 b (mem_inS_of_abs_bound hb)
      (fun k _ => prefix_sums_inS_of_abs_bound b hb (k + 1)), foldl_add_zero]; rfl
  | .node ts, hb => by
    have hf := forest_sum_noOverflow hR ts hb
    rw [chunkedAcc_node, accW_exact wrapAcc (inS w) hR (· + ·) 0 _
      (fun k _ => prefix_sums_inS_of_abs_bound _ (Nat.lt_of_le_of_lt hf.2 hb) (k + 1)), foldl_add_zero, hf.1]; rfl
private theorem forest_sum_noOverflow (hR : ∀ x, inS w x → wrapAcc x = x) : (ts : WForest) →
    absSum ts.leaves < 2 ^ (w - 1) →
    (ts.evals (engineAcc (· + ·) 0 true wrapIn wrapAcc) (accW wrapAcc (· + ·) 0)).sum = ts.leaves.sum ∧
    absSum (ts.evals (engineAcc (· + ·) 0 true wrapIn wrapAcc) (accW wrapAcc (· + ·) 0)) ≤ absSum ts.leaves
  | .one t, hb => by
    have := natAbs_sum_le t.leaves
    simp only [WForest.evals, WForest.leaves, eval_eq_chunkedAcc, tree_sum_noOverflow hR t hb, List.sum_cons,
      List.sum_nil, absSum_cons, absSum_nil]
    omega
  | .cons t ts, hb => by
    simp only [WForest.leaves, absSum_append] at hb
    have hts := forest_sum_noOverflow hR ts (by omega)
    have := natAbs_sum_le t.leaves
    simp only [WForest.evals, WForest.leaves, eval_eq_chunkedAcc, tree_sum_noOverflow hR t (by omega), List.sum_cons,
      List.sum_append, absSum_append, absSum_cons, hts.1]
    refine ⟨trivial, ?_⟩
    have h2 := hts.2
    omega
end

theorem sum_exact_of_abs_bound (hR : ∀ x, inS w x → wrapAcc x = x) (xs : List Int) (h : absSum xs < 2 ^ (w - 1))
    (t : WTree) (hp : t.leaves.Perm xs) : chunkedAcc (· + ·) 0 true wrapIn wrapAcc t = xs.sum := by
  rw [tree_sum_noOverflow hR t (by rw [perm_absSum hp]; exact h), perm_sum hp]

end

theorem sum_exact_of_total_bound {w : Nat} (hw : 1 ≤ w) (wIn : Nat) (xs : List Int) (h : inS w xs.sum) :
    engineSum true wIn w xs = xs.sum ∧
    ∀ t : WTree, t.leaves.Perm xs → chunkedSum true wIn w t = xs.sum := by
  have := exact_all_plans (modWrap_S_add w) mon_add Int.add_comm (wrapS_zero w) (wrapS wIn) xs
  rw [foldl_add_zero] at this
  exact this (wrapS_of_inS hw h)

theorem sumU_exact_of_total_bound (wIn w : Nat) (xs : List Int) (h : inU w xs.sum) :
    engineSumU true wIn w xs = xs.sum ∧
    ∀ t : WTree, t.leaves.Perm xs → chunkedSumU true wIn w t = xs.sum := by
  have := exact_all_plans (modWrap_U_add w) mon_add Int.add_comm (wrapU_zero w) (wrapU wIn) xs
  rw [foldl_add_zero] at this
  exact this (wrapU_of_inU h)

theorem cast_first_exact_all_plans {wAcc : Nat} (hw : 1 ≤ wAcc) (wIn : Nat) (xs : List Int)
    (htot : absSum xs < 2 ^ (wAcc - 1)) :
    engineSum true wIn wAcc xs = xs.sum ∧
    ∀ t : WTree, t.leaves.Perm xs → chunkedSum true wIn wAcc t = xs.sum :=
  sum_exact_of_total_bound hw wIn xs (inS_of_natAbs_lt (Nat.lt_of_le_of_lt (natAbs_sum_le xs) htot))

theorem cast_first_prod_exact_all_plans {wAcc : Nat} (hw : 2 ≤ wAcc) (wIn : Nat) (xs : List Int)
    (htot : absProd xs < 2 ^ (wAcc - 1)) :
    engineProd true wIn wAcc xs = xs.prod ∧
    ∀ t : WTree, t.leaves.Perm xs → chunkedProd true wIn wAcc t = xs.prod := by
  have := exact_all_plans (modWrap_S_mul wAcc) mon_mul Int.mul_comm (wrapS_one hw) (wrapS wIn) xs
  rw [foldl_mul_one] at this
  exact this (wrapS_of_inS (by omega) (inS_of_natAbs_lt (by rw [natAbs_prod]; exact htot)))

theorem cast_first_prodU_exact_all_plans {wAcc : Nat} (hw : 1 ≤ wAcc) (wIn : Nat) (xs : List Int)
    (htot : inU wAcc xs.prod) :
    engineProdU true wIn wAcc xs = xs.prod ∧
    ∀ t : WTree, t.leaves.Perm xs → chunkedProdU true wIn wAcc t = xs.prod := by
  have := exact_all_plans (modWrap_U_mul wAcc) mon_mul Int.mul_comm (wrapU_one hw) (wrapU wIn) xs
  rw [foldl_mul_one] at this
  exact this (wrapU_of_inU htot)

/-- the hypothesis `castFirst` is necessary.  numbagg before /repo a3da74f: int8 `[100, 100]` accumulated in int8, THEN
    cast to int64: `-56`, not `200` -/
theorem narrow_accumulation_counterexample :
    engineSum false 8 64 [100, 100] = -56 ∧ engineSum true 8 64 [100, 100] = 200 ∧
    engineSumU false 8 64 [200, 250, 255, 129] = 66 ∧ engineSumU true 8 64 [200, 250, 255, 129] = 834 ∧
    engineProd false 8 64 [7, 5, 5] = -81 ∧ engineProd true 8 64 [7, 5, 5] = 175 := by decide +kernel

end Flox.IntWidth
