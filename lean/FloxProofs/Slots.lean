/-
  Per-slot semantics of the eager path and of the map-reduce path (dense blocks + simple combine + finalizer),
  and their agreement with the specification slot `Spec.slot`.
-/
import FloxModel.Spec
import FloxProofs.Finish
import FloxProofs.SpecLemmas
import FloxProofs.ShapeLemmas
import FloxProofs.Finalize

namespace Flox

def countVal (ms : List Val) : Val := blockVal .nanlen Val.zero ms

/-- what `runKnown … .eager` puts into the slot of a group with member list `ms` -/
def eagerSlot (R : Resolved) (ms : List Val) : Except String Val :=
  maskedSlot R (countVal ms) (blockVal (R.numpy.headD default) R.npFill ms)

/-- the finalized value the map-reduce path computes from the combined intermediates of a group -/
def Shape.mrVal (s : Shape) (ms : List Val) : Val :=
  match s with
  | .simple k _ f => blockVal k f ms
  | .mean false => Val.div (blockVal .sum Val.zero ms) (blockVal .nanlen Val.zero ms)
  | .mean true => Val.div (blockVal .nansum Val.zero ms) (blockVal .nanlen Val.zero ms)
  | .var false d =>
      onepass d (blockVal .sumsq Val.zero ms) (blockVal .sum Val.zero ms) (blockVal .nanlen Val.zero ms)
  | .var true d =>
      onepass d (blockVal .nansumsq Val.zero ms) (blockVal .nansum Val.zero ms) (blockVal .nanlen Val.zero ms)

/-- what `runKnown … (.mapreduce true)` puts into the slot of a group with member list `ms` -/
def mrSlot (R : Resolved) (s : Shape) (ms : List Val) : Except String Val :=
  maskedSlot R (countVal ms) (s.mrVal ms)

def specSlot (R : Resolved) (k : Kernel) (ms : List Val) : Except String Val :=
  optToExcept (Spec.slot k R.minCount R.userFill ms)

theorem specSlot_nil (R : Resolved) (k : Kernel) : specSlot R k [] = fillOrError R.userFill := rfl

/-- (H_absent) a requested label without any member gets the user's fill only through the count mask
    (open finding F9) -/
def HAbsent (R : Resolved) (ms : List Val) : Prop := R.minCount ≥ 1 ∨ ms ≠ []

/-- (H_allnan) NaN-skipping kernels whose all-NaN value is the NumPy fill: that fill must be NaN unless the count
    mask is on -/
def HAllNaN (R : Resolved) (s : Shape) : Prop := s.needsNaNFill = true → R.minCount ≥ 1 ∨ R.npFill = Val.nan

/-- (H_minmax) `nanmax` / `nanmin` intermediates hold ∓inf for an all-NaN group: the count mask must be on -/
def HMinMax (R : Resolved) (s : Shape) : Prop := s.isNanMinMax = true → R.minCount ≥ 1

instance (R : Resolved) (ms : List Val) : Decidable (HAbsent R ms) := by unfold HAbsent; infer_instance
instance (R : Resolved) (s : Shape) : Decidable (HAllNaN R s) := by unfold HAllNaN; infer_instance
instance (R : Resolved) (s : Shape) : Decidable (HMinMax R s) := by unfold HMinMax; infer_instance

def Unmasked (R : Resolved) (ms : List Val) : Prop := ¬ (R.minCount > 0 ∧ Spec.validCount ms < R.minCount)

theorem countVal_eq (ms : List Val) : countVal ms = Val.ofNat (Spec.validCount ms) := by
  rw [countVal, blockVal_nanlen]; rfl

theorem countBelow_countVal (ms : List Val) (m : Nat) :
    countBelow (countVal ms) m = decide (Spec.validCount ms < m) := by
  rw [countVal_eq]
  simp [countBelow, Val.ofNat, Rat.natCast_lt_natCast]

theorem maskedSlot_countVal (R : Resolved) (ms : List Val) (v : Val) :
    maskedSlot R (countVal ms) v
      = if R.minCount > 0 ∧ Spec.validCount ms < R.minCount then fillOrError R.userFill else .ok v := by
  simp [maskedSlot, countBelow_countVal]

theorem validCount_nil : Spec.validCount [] = 0 := rfl

theorem maskedSlot_eq_specSlot (R : Resolved) (k : Kernel) (ms : List Val) (v : Val)
    (H_absent : HAbsent R ms) (hv : ms ≠ [] → Unmasked R ms → v = kEval k ms) :
    maskedSlot R (countVal ms) v = specSlot R k ms := by
  rw [maskedSlot_countVal, specSlot]
  by_cases hf : SpecL.NeedsFill R.minCount ms
  · have hlt : Spec.validCount ms < R.minCount := by
      rcases hf with rfl | h
      · exact H_absent.resolve_right fun h => h rfl
      · exact h
    rw [SpecL.slot_needsFill _ _ _ _ hf, if_pos ⟨by omega, hlt⟩]; rfl
  · obtain ⟨hne, hlt⟩ := SpecL.not_needsFill hf
    rw [SpecL.slot_value _ _ _ _ hf, if_neg fun h => hlt h.2, hv (by simpa using hne) fun h => hlt h.2]; rfl

theorem allNaN_unmasked {R : Resolved} {ms : List Val} (hun : Unmasked R ms) (hd : dropNaN ms = []) :
    ¬ R.minCount ≥ 1 := by
  intro h
  apply hun
  refine ⟨h, ?_⟩
  simp only [Spec.validCount, hd, List.length_nil]
  exact h

/-! The all-NaN value of the built-in NaN-skipping columns, read off the table: it is the kernel's value on no
    member, except that `nanmax` / `nanmin` store their fill `∓inf` where NumPy gives NaN. -/

theorem floatColumns_allNaN_fill {k c : Kernel} {f : Val} (h : (k, c, f) ∈ floatColumns) (hs : k.skipsNaN = true)
    (hmm : (Shape.simple k c f).isNanMinMax = false) : allNaNVal k f = kEval k [] :=
  (show ∀ t ∈ floatColumns, t.1.skipsNaN = true → (Shape.simple t.1 t.2.1 t.2.2).isNanMinMax = false →
    allNaNVal t.1 t.2.2 = kEval t.1 [] by decide +kernel) _ h hs hmm

theorem floatColumns_allNaN_nan {k c : Kernel} {f : Val} (h : (k, c, f) ∈ floatColumns) (hs : k.skipsNaN = true) :
    allNaNVal k Val.nan = kEval k [] :=
  (show ∀ t ∈ floatColumns, t.1.skipsNaN = true → allNaNVal t.1 Val.nan = kEval t.1 [] by decide +kernel) _ h hs

/-- the columns that need no NaN fill are the counting ones, whose all-NaN value ignores the fill -/
theorem floatColumns_allNaN_nofill {k c : Kernel} {f : Val} (h : (k, c, f) ∈ floatColumns) (hs : k.skipsNaN = true)
    (hn : (Shape.simple k c f).needsNaNFill = false) (x : Val) : allNaNVal k x = allNaNVal k Val.nan := by
  have hk : k = .nansum ∨ k = .nanprod ∨ k = .nanlen ∨ k = .nansumsq :=
    (show ∀ t ∈ floatColumns, t.1.skipsNaN = true → (Shape.simple t.1 t.2.1 t.2.2).needsNaNFill = false →
      t.1 = .nansum ∨ t.1 = .nanprod ∨ t.1 = .nanlen ∨ t.1 = .nansumsq by decide +kernel) _ h hs hn
  rcases hk with rfl | rfl | rfl | rfl <;> rfl

theorem eagerVal_eq {R : Resolved} {s : Shape} (hs : s.Fits R) (ms : List Val) (hne : ms ≠ [])
    (hun : Unmasked R ms) (H_allnan : HAllNaN R s) :
    blockVal s.kernel R.npFill ms = kEval s.kernel ms := by
  by_cases hd : dropNaN ms = []
  · have hmc := allNaN_unmasked hun hd
    by_cases hk : s.kernel.skipsNaN = true
    · rw [blockVal_of_allNaN _ _ _ hk hne hd]
      have hnan : s.needsNaNFill = true → R.npFill = Val.nan := fun h => (H_allnan h).resolve_left hmc
      cases s with
      | simple k c f =>
        have hwf : (k, c, f) ∈ floatColumns := by simpa [Shape.wf] using hs.wf
        simp only [Shape.kernel] at hk ⊢
        rw [← kEval_dropNaN k hk (floatColumns_kernel hwf).1 ms, hd, ← floatColumns_allNaN_nan hwf hk]
        by_cases hn : (Shape.simple k c f).needsNaNFill = true
        · rw [hnan hn]
        · exact floatColumns_allNaN_nofill hwf hk (by simpa using hn) _
      | mean b =>
        cases b with
        | false => exact absurd hk (by decide)
        | true =>
          simp only [Shape.kernel, allNaNVal, hnan rfl]
          exact (kEval_nanmean_allNaN ms hd).symm
      | var b d =>
        cases b with
        | false => exact absurd hk (by simp [Shape.kernel, Kernel.skipsNaN])
        | true =>
          simp only [Shape.kernel, allNaNVal, hnan rfl]
          exact (kEval_nanvar_allNaN d ms hd).symm
    · exact blockVal_of_noskip _ _ _ (by simpa using hk) hne
  · exact blockVal_of_valid _ _ _ hd

theorem mrVal_eq {R : Resolved} {s : Shape} (hs : s.Fits R) (ms : List Val) (hne : ms ≠ [])
    (hun : Unmasked R ms) (H_minmax : HMinMax R s) :
    s.mrVal ms = kEval s.kernel ms := by
  cases s with
  | simple k c f =>
    simp only [Shape.mrVal, Shape.kernel]
    by_cases hd : dropNaN ms = []
    · by_cases hk : k.skipsNaN = true
      · have hwf : (k, c, f) ∈ floatColumns := by simpa [Shape.wf] using hs.wf
        by_cases hmm : (Shape.simple k c f).isNanMinMax = true
        · exact absurd (H_minmax hmm) (allNaN_unmasked hun hd)
        · rw [blockVal_of_allNaN _ _ _ hk hne hd, ← kEval_dropNaN k hk (floatColumns_kernel hwf).1 ms, hd]
          exact floatColumns_allNaN_fill hwf hk (by simpa using hmm)
      · exact blockVal_of_noskip _ _ _ (by simpa using hk) hne
    · exact blockVal_of_valid _ _ _ hd
  | mean b =>
    cases b with
    | false => exact mean_finalize ms
    | true => exact nanmean_finalize ms
  | var b d =>
    cases b with
    | false => exact var_finalize d ms
    | true => exact nanvar_finalize d ms

theorem eagerSlot_eq_specSlot {R : Resolved} {s : Shape} (hs : s.Fits R) (ms : List Val)
    (H_absent : HAbsent R ms) (H_allnan : HAllNaN R s) :
    eagerSlot R ms = specSlot R s.kernel ms := by
  unfold eagerSlot
  rw [hs.numpy]
  exact maskedSlot_eq_specSlot R s.kernel ms _ H_absent (fun hne hun => eagerVal_eq hs ms hne hun H_allnan)

theorem mrSlot_eq_specSlot {R : Resolved} {s : Shape} (hs : s.Fits R) (ms : List Val)
    (H_absent : HAbsent R ms) (H_minmax : HMinMax R s) :
    mrSlot R s ms = specSlot R s.kernel ms :=
  maskedSlot_eq_specSlot R s.kernel ms _ H_absent (fun hne hun => mrVal_eq hs ms hne hun H_minmax)

theorem mrSlot_eq_eagerSlot {R : Resolved} {s : Shape} (hs : s.Fits R) (ms : List Val)
    (H_absent : HAbsent R ms) (H_allnan : HAllNaN R s) (H_minmax : HMinMax R s) :
    mrSlot R s ms = eagerSlot R ms := by
  rw [mrSlot_eq_specSlot hs ms H_absent H_minmax, eagerSlot_eq_specSlot hs ms H_absent H_allnan]

end Flox
