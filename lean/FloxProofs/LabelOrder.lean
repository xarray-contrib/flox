/-
  Property C16 (order of the returned group labels) on `factorizeLabels` (`FloxModel/Entry.lean`): what the returned
  label list is in each of the four cases (`sort` or not, `expected` given or not), and that in every case the code of
  an element is the index of its label in that list, `-1` for NaN and for labels not in it.  Slot `j` of a run on the
  codes therefore collects the values carrying the `j`-th returned label, whatever the order
  (`factorizeLabels_members`): `sort` only rearranges the returned labels (`factorizeLabels_sort_mem`).  The
  declarations are in the namespace `Flox.C16` of the property they serve (C05 uses them from there too).
-/
import FloxProofs.SparseKeys
import FloxModel.Entry

namespace Flox

namespace C16

open Grp (codeOf)

theorem indexOf?_first (x : Rat) (l : List Rat) (i : Nat) (h : indexOf? x l = some i) :
    ∀ j, j < i → l[j]? ≠ some x := by
  induction l generalizing i with
  | nil => simp [indexOf?] at h
  | cons y ys ih =>
    simp only [indexOf?] at h
    by_cases hxy : x = y
    · simp only [hxy, if_true, Option.some.injEq] at h
      subst h
      intro j hj; omega
    · simp only [hxy, if_false] at h
      cases hi : indexOf? x ys with
      | none => simp [hi] at h
      | some k =>
        simp only [hi, Option.map_some, Option.some.injEq] at h
        subst h
        intro j hj
        cases j with
        | zero => simp only [List.getElem?_cons_zero, ne_eq, Option.some.injEq]; exact fun e => hxy e.symm
        | succ j' => simpa using ih k hi j' (by omega)

theorem sorted_expected_strictAsc (ex : List Rat) (hnd : ex.Nodup) :
    (ex.mergeSort fun a b => decide (a ≤ b)).Pairwise (· < ·) := by
  have hs : (ex.mergeSort fun a b => decide (a ≤ b)).Pairwise (fun a b => decide (a ≤ b) = true) := by
    apply List.pairwise_mergeSort
    · intro a b c h1 h2
      simp only [decide_eq_true_eq] at *
      exact Rat.le_trans h1 h2
    · intro a b
      simp only [Bool.or_eq_true, decide_eq_true_eq]
      exact Rat.le_total
  have hnd' : (ex.mergeSort fun a b => decide (a ≤ b)).Nodup := (List.mergeSort_perm ex _).nodup_iff.mpr hnd
  refine (hs.and hnd').imp fun {a b} h => ?_
  exact Rat.lt_of_le_of_ne (of_decide_eq_true h.1) h.2

theorem factorizeLabels_sorted_expected (labels : List Key) (ex : List Rat) (hnd : ex.Nodup) :
    (factorizeLabels labels (some ex) true).1.Pairwise (· < ·)
    ∧ (factorizeLabels labels (some ex) true).1.Perm ex := by
  simp only [factorizeLabels, if_true]
  exact ⟨sorted_expected_strictAsc ex hnd, List.mergeSort_perm ex _⟩

theorem factorizeLabels_sorted_found (labels : List Key) :
    (factorizeLabels labels none true).1.Pairwise (· < ·)
    ∧ ∀ r, r ∈ (factorizeLabels labels none true).1 ↔ some r ∈ labels := by
  rw [Grp.factorizeLabels_none]
  exact ⟨pairwise_uniqSorted _, fun r => Grp.mem_foundOf true r labels⟩

theorem factorizeLabels_unsorted_expected (labels : List Key) (ex : List Rat) :
    (factorizeLabels labels (some ex) false).1 = ex := by
  simp [factorizeLabels]

theorem factorizeLabels_unsorted_found (labels : List Key) :
    (factorizeLabels labels none false).1 = uniqFirst (presentKeys labels)
    ∧ (factorizeLabels labels none false).1.Nodup
    ∧ ∀ r, r ∈ (factorizeLabels labels none false).1 ↔ some r ∈ labels := by
  rw [Grp.factorizeLabels_none]
  exact ⟨rfl, Grp.nodup_foundOf false labels, fun r => Grp.mem_foundOf false r labels⟩

theorem factorizeLabels_codes (labels : List Key) (expected : Option (List Rat)) (sort : Bool) :
    (factorizeLabels labels expected sort).2 = labels.map (codeOf (factorizeLabels labels expected sort).1) := by
  cases expected with
  | none => rfl
  | some ex => rfl

theorem codeOf_decode (groups : List Rat) (l : Key) :
    (∀ j : Nat, codeOf groups l = (j : Int) → groups[j]? = l ∧ l ≠ none)
    ∧ (codeOf groups l = -1 ↔ (l = none ∨ ∃ r, l = some r ∧ r ∉ groups))
    ∧ (-1 ≤ codeOf groups l ∧ codeOf groups l < groups.length) := by
  cases l with
  | none =>
    simp only [codeOf]
    refine ⟨fun j hj => by omega, by simp, by omega⟩
  | some r =>
    cases hi : indexOf? r groups with
    | none =>
      have := (indexOf?_eq_none_iff r groups).mp hi
      simp only [codeOf, hi]
      refine ⟨fun j hj => by omega, by simp [this], by omega⟩
    | some i =>
      obtain ⟨hlt, e⟩ := indexOf?_some hi
      have hget : groups[i]? = some r := by rw [List.getElem?_eq_getElem hlt, e]
      have hmem : r ∈ groups := e ▸ List.getElem_mem hlt
      simp only [codeOf, hi]
      refine ⟨?_, ?_, by omega⟩
      · intro j hj
        have : i = j := by omega
        subst this
        exact ⟨hget, by simp⟩
      · constructor
        · intro h; omega
        · rintro (h | ⟨r', h1, h2⟩)
          · cases h
          · simp only [Option.some.injEq] at h1
            subst h1
            exact absurd hmem h2

theorem factorizeLabels_decode (labels : List Key) (expected : Option (List Rat)) (sort : Bool) (i : Nat)
    (hi : i < labels.length) :
    ∃ hc : i < (factorizeLabels labels expected sort).2.length,
      (∀ j : Nat, (factorizeLabels labels expected sort).2[i] = (j : Int) →
        (factorizeLabels labels expected sort).1[j]? = labels[i] ∧ labels[i] ≠ none)
      ∧ ((factorizeLabels labels expected sort).2[i] = -1 ↔
          (labels[i] = none ∨ ∃ r, labels[i] = some r ∧ r ∉ (factorizeLabels labels expected sort).1)) := by
  have hcodes := factorizeLabels_codes labels expected sort
  have hc : i < (factorizeLabels labels expected sort).2.length := by rw [hcodes]; simpa using hi
  refine ⟨hc, ?_⟩
  have he : (factorizeLabels labels expected sort).2[i]
      = codeOf (factorizeLabels labels expected sort).1 labels[i] := by
    simp only [hcodes, List.getElem_map]
  rw [he]
  have := codeOf_decode (factorizeLabels labels expected sort).1 labels[i]
  exact ⟨this.1, this.2.1⟩

theorem factorizeLabels_sort_mem (labels : List Key) (expected : Option (List Rat)) (r : Rat) :
    r ∈ (factorizeLabels labels expected true).1 ↔ r ∈ (factorizeLabels labels expected false).1 := by
  cases expected with
  | some ex =>
    rw [factorizeLabels_unsorted_expected]
    exact (List.mergeSort_perm ex _).mem_iff
  | none =>
    exact ((factorizeLabels_sorted_found labels).2 r).trans ((factorizeLabels_unsorted_found labels).2.2 r).symm

theorem factorizeLabels_nodup (labels : List Key) (expected : Option (List Rat)) (sort : Bool)
    (hnd : ∀ ex, expected = some ex → ex.Nodup) : (factorizeLabels labels expected sort).1.Nodup := by
  cases expected with
  | none =>
    cases sort
    · exact (factorizeLabels_unsorted_found labels).2.1
    · exact nodup_of_pairwise_lt _ (factorizeLabels_sorted_found labels).1
  | some ex =>
    cases sort
    · rw [factorizeLabels_unsorted_expected]; exact hnd ex rfl
    · exact nodup_of_pairwise_lt _ (factorizeLabels_sorted_expected labels ex (hnd ex rfl)).1

theorem factorizeLabels_members (labels : List Key) (expected : Option (List Rat)) (sort : Bool)
    (hnd : ∀ ex, expected = some ex → ex.Nodup) (vals : List Val) (j : Nat)
    (hj : j < (factorizeLabels labels expected sort).1.length) :
    members (Int.ofNat j) (factorizeLabels labels expected sort).2 vals
      = Grp.membersK (some (factorizeLabels labels expected sort).1[j]) labels vals := by
  rw [factorizeLabels_codes]
  exact Grp.members_by_label _ (factorizeLabels_nodup labels expected sort hnd) j hj labels vals

def exLabels : List Key := [some 3, none, some 1, some 3, some 2]

example : factorizeLabels exLabels none false = ([3, 1, 2], [0, -1, 1, 0, 2]) := by decide +kernel
example : factorizeLabels exLabels none true = ([1, 2, 3], [2, -1, 0, 2, 1]) := by decide +kernel
example : factorizeLabels exLabels (some [2, 7, 3]) false = ([2, 7, 3], [2, -1, -1, 2, 0]) := by decide +kernel
example : uniqFirst (presentKeys exLabels) = [3, 1, 2] := by decide +kernel

end C16

end Flox
