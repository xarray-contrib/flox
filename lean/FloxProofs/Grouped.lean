/-
  The grouped combine (`_grouped_combine`) for reduce-type aggregations.

  Block stage without reindexing (`chunk_reduce(expected_groups=None)`): every block stores the labels it found and,
  per label, `blockVal k f` of the members (`sparseInter`).  `_grouped_combine` concatenates groups and columns in
  block order and runs `chunk_reduce` again with the combine kernels: the labels are factorized again and the combine
  kernel runs over each label's entries in the concatenated column.  By the law of each column (`GLaw`) the result is
  the sparse intermediate of the concatenated segments, so for every `split_every` that of the whole array.
  `_finalize_results` and the final reindex then give the specification, for labels known in advance and for labels
  discovered at compute time (C12).
-/
import FloxProofs.SparseKeys

namespace Flox.Grp

/-- The grouped-combine law of a column `(k, c, f)` on values satisfying `P`: running the *engine kernel* `c`
    (i.e. `blockVal c f`, not `combineVal c`) over the per-block values of the blocks where the label occurs gives
    the block value of the concatenated members. -/
def GLaw (P : Val → Prop) (k c : Kernel) (f : Val) : Prop :=
  ∀ parts : List (List Val), parts ≠ [] → (∀ p ∈ parts, p ≠ [] ∧ ∀ v ∈ p, P v) →
    blockVal c f (parts.map (blockVal k f)) = blockVal k f parts.flatten

theorem floatColumns_combine {k c : Kernel} {f : Val} (h : (k, c, f) ∈ floatColumns) :
    isArgKernel c = false ∧ c ≠ .nanlen ∧ c ≠ .nansumsq :=
  (show ∀ t ∈ floatColumns, isArgKernel t.2.1 = false ∧ t.2.1 ≠ .nanlen ∧ t.2.1 ≠ .nansumsq by decide +kernel) _ h

/-- the NaN-skipping combine kernels of the built-in columns: `nanfirst` / `nanlast`, whose all-NaN value is NumPy's
    value on no element, and `nanmax` / `nanmin` -/
theorem floatColumns_combine_allNaN {k c : Kernel} {f : Val} (h : (k, c, f) ∈ floatColumns) (hc : c.skipsNaN = true) :
    allNaNVal c f = kEval c [] ∨ (k, f) = (.nanmax, Val.ninf) ∨ (k, f) = (.nanmin, Val.pinf) :=
  (show ∀ t ∈ floatColumns, t.2.1.skipsNaN = true →
    allNaNVal t.2.1 t.2.2 = kEval t.2.1 [] ∨ (t.1, t.2.2) = (.nanmax, Val.ninf) ∨ (t.1, t.2.2) = (.nanmin, Val.pinf)
    by decide +kernel) _ h hc

/-- on the per-block values of a built-in column, the engine kernel `blockVal c f` and NumPy's `combineVal c`
    agree (the only way they could differ is a NaN-skipping `c` on all-NaN input: for `nanmax`/`nanmin` the
    per-block values are never NaN, for `nanfirst`/`nanlast` both give NaN) -/
theorem blockVal_eq_combineVal (k c : Kernel) (f : Val) (h : (k, c, f) ∈ floatColumns)
    (parts : List (List Val)) (hne : parts ≠ []) :
    blockVal c f (parts.map (blockVal k f)) = combineVal c (parts.map (blockVal k f)) := by
  have hne' : parts.map (blockVal k f) ≠ [] := by simpa using hne
  by_cases hd : dropNaN (parts.map (blockVal k f)) = []
  · by_cases hc : c.skipsNaN = true
    · rw [blockVal_of_allNaN _ _ _ hc hne' hd, combineVal, ← kEval_dropNaN c hc (floatColumns_combine h).1, hd]
      obtain ⟨p, hp⟩ := List.exists_mem_of_ne_nil parts hne
      have hnan := dropNaN_eq_nil_iff.mp hd _ (List.mem_map_of_mem hp)
      rcases floatColumns_combine_allNaN h hc with e | e | e
      · exact e
      · cases e
        rw [blockVal_nanmax, vmax_dropNaN_isNaN] at hnan
        cases hnan
      · cases e
        rw [blockVal_nanmin, vmin_dropNaN_isNaN] at hnan
        cases hnan
    · exact blockVal_of_noskip _ _ _ (by simpa using hc) hne'
  · exact blockVal_of_valid _ _ _ hd

theorem GLaw_floatColumns (k c : Kernel) (f : Val) (h : (k, c, f) ∈ floatColumns) :
    GLaw (fun _ => True) k c f := by
  intro parts hne _
  rw [blockVal_eq_combineVal k c f h parts hne, combine_parts k c f h parts hne]

theorem colAt_sparseInter (ks : List Kernel) (fills : List Val) (sort : Bool) (keys : List Key) (vals : List Val)
    (j : Nat) (hj : j < ks.length) (hk : ks.length = fills.length) :
    colAt (sparseInter ks fills sort keys vals) j
      = nodeCol sort keys (fills[j]'(by omega))
          fun r => blockVal ks[j] (fills[j]'(by omega)) (membersK (some r) keys vals) := by
  have hz : j < (ks.zip fills).length := by rw [List.length_zip, ← hk, Nat.min_self]; exact hj
  rw [sparseInter_eq]
  simp only [colAt, List.getD_eq_getElem?_getD, List.getElem?_map, List.getElem?_eq_getElem hz, List.getElem_zip,
    Option.map_some, Option.getD_some]

abbrev sparseNode (R : Resolved) (sort : Bool) (p : List Key × List Val) : Inter :=
  sparseInter R.chunk R.interFills sort p.1 p.2

/-- one slot of one column of a grouped combine -/
theorem combine_slot {σ : Type} (sort : Bool) (keysOf : σ → List Key) (valsOf : σ → List Val) (node : σ → Inter)
    (j : Nat) {P : Val → Prop} {k c : Kernel} {f : Val} (hlaw : GLaw P k c f)
    (segs : List σ) (hal : ∀ p ∈ segs, (keysOf p).length = (valsOf p).length)
    (hP : ∀ p ∈ segs, ∀ v ∈ valsOf p, P v)
    (hg : ∀ p, (node p).groups = nodeGroups sort (keysOf p))
    (hc : ∀ p, colAt (node p) j
      = nodeCol sort (keysOf p) f fun r => blockVal k f (membersK (some r) (keysOf p) (valsOf p)))
    (r : Rat) (hr : ∃ p ∈ segs, some r ∈ keysOf p) :
    blockVal c f (membersK (some r) ((segs.map node).flatMap (·.groups)) ((segs.map node).flatMap (colAt · j)))
      = blockVal k f (segs.map fun p => membersK (some r) (keysOf p) (valsOf p)).flatten := by
  have hmap : ((segs.filter fun p => decide (r ∈ foundOf sort (keysOf p))).map
        fun p => blockVal k f (membersK (some r) (keysOf p) (valsOf p)))
      = ((segs.filter fun p => decide (r ∈ foundOf sort (keysOf p))).map
          fun p => membersK (some r) (keysOf p) (valsOf p)).map (blockVal k f) := by
    rw [List.map_map]; rfl
  rw [membersK_nodes sort keysOf node j f (fun p r => blockVal k f (membersK (some r) (keysOf p) (valsOf p))) segs r
    hg hc, hmap, hlaw]
  · rw [flatten_map_filter]
    intro p _ hq
    apply membersK_eq_nil_of_not_mem
    intro hmem
    simp [(mem_foundOf sort r (keysOf p)).mpr hmem] at hq
  · -- at least one segment holds the label
    obtain ⟨p, hp, hk⟩ := hr
    have : p ∈ segs.filter fun p => decide (r ∈ foundOf sort (keysOf p)) := by
      simp only [List.mem_filter, decide_eq_true_eq]
      exact ⟨hp, (mem_foundOf sort r _).mpr hk⟩
    intro h
    rw [List.map_eq_nil_iff.mp h] at this
    simp at this
  · intro q hq
    obtain ⟨p, hp, rfl⟩ := List.mem_map.mp hq
    simp only [List.mem_filter, decide_eq_true_eq] at hp
    exact ⟨membersK_ne_nil_of_mem _ _ _ ((mem_foundOf sort r _).mp hp.2) (by rw [hal p hp.1]; exact Nat.le_refl _),
      fun v hv => hP p hp.1 v (mem_of_mem_membersK hv)⟩

theorem mapIdx_eq_map_of_getElem {α β γ} {l : List α} {l' : List β} {F : Nat → α → γ} {G : β → γ}
    (hlen : l.length = l'.length) (h : ∀ j (h1 : j < l.length) (h2 : j < l'.length), F j l[j] = G l'[j]) :
    l.mapIdx F = l'.map G := by
  apply List.ext_getElem (by simp only [List.length_mapIdx, List.length_map, hlen])
  intro j h1 h2
  simp only [List.getElem_mapIdx, List.getElem_map]
  exact h j _ _

theorem getLastD_mem {α} (l : List α) (d : α) (h : l ≠ []) : l.getLastD d ∈ l := by
  rw [List.getLastD_eq_getLast?, List.getLast?_eq_some_getLast h]
  exact List.getLast_mem h

/-- `_grouped_combine` for reduce-type aggregations, on any intermediates (numpy_groupies engine) -/
theorem groupedCombine_reduce (R : Resolved) (sort : Bool) (xs : List Inter) (harg : R.isArg = false)
    (hne : R.combine.zip R.interFills ≠ [])
    (hnoargC : ∀ k ∈ R.combine, isArgKernel k = false)
    (hzC : ∀ p ∈ R.combine.zip R.interFills, (p.1 = .nanlen ∨ p.1 = .nansumsq) → p.2 = Val.zero) :
    groupedCombine R .npg sort xs
      = { groups := nodeGroups sort (xs.flatMap (·.groups)),
          cols := (R.combine.zip R.interFills).mapIdx fun j p =>
            nodeCol sort (xs.flatMap (·.groups)) p.2 fun r =>
              blockVal p.1 p.2 (membersK (some r) (xs.flatMap (·.groups)) (xs.flatMap (colAt · j))) } := by
  have hrs : ((R.combine.zip R.interFills).mapIdx fun j (x : Kernel × Val) =>
        match x with
        | (k, fv) => chunkReduce .npg [k] [fv] (xs.flatMap (·.groups)) (xs.flatMap (colAt · j)) none sort)
      = (R.combine.zip R.interFills).mapIdx fun j (x : Kernel × Val) =>
        sparseInter [x.1] [x.2] sort (xs.flatMap (·.groups)) (xs.flatMap (colAt · j)) := by
    apply List.mapIdx_eq_mapIdx_iff.mpr
    intro j hj
    have hmem := List.getElem_mem hj
    exact chunkReduce_sparse _ _ _ _ _ (by simpa using hnoargC _ (List.of_mem_zip hmem).1)
      (by simpa using hzC _ hmem)
  unfold groupedCombine
  simp only [harg, Bool.false_eq_true, if_false, hrs, sparseInter_eq]
  congr 1
  · -- all per-column results carry the same groups
    obtain ⟨j, hj, e⟩ := List.mem_mapIdx.mp (getLastD_mem _ (default : Inter) (mt List.mapIdx_eq_nil_iff.mp hne))
    rw [← e]
  · apply List.ext_getElem (by simp)
    intro j _ _
    simp only [List.getElem_map, List.getElem_mapIdx]
    rfl

/-- everything the grouped-combine theorems need to know about a reduce-type blueprint -/
structure GroupedOK (R : Resolved) (P : Val → Prop) : Prop where
  harg : R.isArg = false
  hc : R.chunk.length = R.combine.length
  hf : R.chunk.length = R.interFills.length
  hpos : 0 < R.chunk.length
  hlaw : ∀ j (hj : j < R.chunk.length),
    GLaw P R.chunk[j] (R.combine[j]'(by omega)) (R.interFills[j]'(by omega))
  hnoarg : ∀ k ∈ R.chunk, isArgKernel k = false
  hz : ∀ p ∈ R.chunk.zip R.interFills, (p.1 = .nanlen ∨ p.1 = .nansumsq) → p.2 = Val.zero
  hnoargC : ∀ k ∈ R.combine, isArgKernel k = false
  hzC : ∀ p ∈ R.combine.zip R.interFills, (p.1 = .nanlen ∨ p.1 = .nansumsq) → p.2 = Val.zero

abbrev ValsOK (P : Val → Prop) (segs : SegsK) : Prop := ∀ p ∈ segs, ∀ v ∈ p.2, P v

/-- `_grouped_combine` of sparse nodes is the sparse node of the concatenated segments (reduce type, numpy_groupies
    engine) -/
theorem GroupedOK.combine {R : Resolved} {P : Val → Prop} (h : GroupedOK R P) (sort : Bool) (segs : SegsK)
    (hne : segs ≠ []) (hal : AlignedK segs) (hP : ValsOK P segs) :
    groupedCombine R .npg sort (segs.map (sparseNode R sort))
      = sparseInter R.chunk R.interFills sort (catKK segs) (catKV segs) := by
  have hf := h.hf
  have hlenC : (R.combine.zip R.interFills).length = R.chunk.length := by
    rw [List.length_zip, ← h.hc, ← hf, Nat.min_self]
  have hlenK : (R.chunk.zip R.interFills).length = R.chunk.length := by rw [List.length_zip, ← hf, Nat.min_self]
  have hzip : R.combine.zip R.interFills ≠ [] := List.ne_nil_of_length_pos (hlenC ▸ h.hpos)
  have hfound : foundOf sort ((segs.map (sparseNode R sort)).flatMap (·.groups)) = foundOf sort (catKK segs) :=
    foundOf_nodes sort segs _
      (presentKeys_nodes sort (·.1) segs (sparseNode R sort) fun p _ => presentKeys_sparseInter _ _ _ _ _)
  rw [groupedCombine_reduce R sort _ h.harg hzip h.hnoargC h.hzC, sparseInter_eq]
  rw [Inter.mk.injEq]
  refine ⟨?_, ?_⟩
  · exact foundCol_congr sort hfound _ _ _ fun _ _ => rfl
  · refine mapIdx_eq_map_of_getElem (hlenC.trans hlenK.symm) fun j h1 _ => ?_
    have hj : j < R.chunk.length := hlenC ▸ h1
    simp only [List.getElem_zip]
    -- slot by slot: the law of column `j` over the entries of the label in the concatenated column
    refine foundCol_congr sort hfound _ _ _ fun r hr => ?_
    rw [membersK_cat _ segs hal]
    exact combine_slot sort Prod.fst Prod.snd (sparseNode R sort) j (h.hlaw j hj) segs hal hP
      (fun p => sparseInter_groups _ _ _ _ _)
      (fun p => by rw [colAt_sparseInter _ _ _ _ _ j hj hf]) r (mem_catKK.mp ((mem_foundOf sort r _).mp hr))

def catSegK (segs : SegsK) : List Key × List Val := (catKK segs, catKV segs)

theorem catSegK_flatten (L : List SegsK) : catSegK (L.map catSegK) = catSegK L.flatten := by
  have h1 : catKK (L.map catSegK) = (L.map catKK).flatten := by rw [catKK, List.map_map]; rfl
  have h2 : catKV (L.map catSegK) = (L.map catKV).flatten := by rw [catKV, List.map_map]; rfl
  rw [catSegK, h1, h2, ← catKK_flatten, ← catKV_flatten]
  rfl

theorem tree_sparseNodes {R : Resolved} {P : Val → Prop} (h : GroupedOK R P) (sort : Bool) (se : Nat)
    (segs : SegsK) (hne : segs ≠ []) (hal : AlignedK segs) (hP : ValsOK P segs) :
    groupedCombine R .npg sort (treeReduce (groupedCombine R .npg sort) se (segs.map (sparseNode R sort)))
      = sparseInter R.chunk R.interFills sort (catKK segs) (catKV segs) :=
  treeReduce_nodes (Q := fun p : List Key × List Val => p.1.length = p.2.length ∧ ∀ v ∈ p.2, P v)
    (cat := catSegK) catSegK_flatten
    (fun grp hne hQ =>
      ⟨⟨AlignedK.cat_length fun p hp => (hQ p hp).1,
        fun v hv => by obtain ⟨q, hq, hv'⟩ := mem_catKV.mp hv; exact (hQ q hq).2 v hv'⟩,
       h.combine sort grp hne (fun p hp => (hQ p hp).1) (fun p hp => (hQ p hp).2)⟩)
    se segs hne (fun p hp => ⟨hal p hp, hP p hp⟩)

theorem blockStage_sparse {P : Val → Prop} (c : Call) (chunks : List Nat) (keys : List Key) (vals : List Val)
    (h : GroupedOK c.R P) (heng : c.eng = .npg) :
    blockStage c false chunks keys vals = (segsOfK chunks keys vals).map (sparseNode c.R c.sort) := by
  rw [blockStage_eq c false chunks keys vals h.harg, heng]
  apply List.map_congr_left
  intro p _
  exact chunkReduce_sparse _ _ _ _ _ h.hnoarg h.hz

/-- Map-reduce without reindexing, `_grouped_combine` (numpy_groupies engine): for every chunking and every
    `split_every` the combined intermediates are the sparse intermediates of the whole array. -/
theorem mapreduce_sparse {P : Val → Prop} (c : Call) (chunks : List Nat) (keys : List Key) (vals : List Val)
    (se : Nat) (h : GroupedOK c.R P) (heng : c.eng = .npg)
    (hchunks : chunks ≠ []) (hsum : chunks.sum = keys.length) (hlen : keys.length = vals.length)
    (hP : ∀ v ∈ vals, P v) :
    groupedCombine c.R .npg c.sort (treeReduce (groupedCombine c.R .npg c.sort) se
        (blockStage c false chunks keys vals))
      = sparseInter c.R.chunk c.R.interFills c.sort keys vals := by
  have hV : catKV (segsOfK chunks keys vals) = vals := segsOfK_catKV chunks keys vals (by omega)
  rw [blockStage_sparse c chunks keys vals h heng,
    tree_sparseNodes h c.sort se _ (segsOfK_ne_nil chunks keys vals hchunks)
      (segsOfK_aligned chunks keys vals hlen)
      (by
        intro p hp v hv
        apply hP
        rw [← hV]
        exact mem_catKV.mpr ⟨p, hp, hv⟩),
    segsOfK_catKK chunks keys vals (by omega), hV]

theorem _root_.Flox.Shape.Fits.chunk_pos {s : Shape} {R : Resolved} (hs : s.Fits R) : 0 < R.chunk.length := by
  rw [hs.chunk]
  cases s with
  | simple k c f => simp [Shape.chunk]
  | mean b => cases b <;> simp [Shape.chunk]
  | var b d => cases b <;> simp [Shape.chunk]

theorem _root_.Flox.Shape.Fits.groupedOK {s : Shape} {R : Resolved} (hs : s.Fits R) :
    GroupedOK R (fun _ => True) := by
  have hcomb : ∀ j (hj : j < R.combine.length),
      isArgKernel R.combine[j] = false ∧ R.combine[j] ≠ .nanlen ∧ R.combine[j] ≠ .nansumsq :=
    fun j hj => floatColumns_combine (hs.col_mem j (hs.len_combine ▸ hj))
  exact {
    harg := hs.isArg
    hc := hs.len_combine
    hf := hs.len_interFills
    hpos := hs.chunk_pos
    hlaw := fun j hj => GLaw_floatColumns _ _ _ (hs.col_mem j hj)
    hnoarg := hs.chunk_noarg
    hz := hs.chunk_zero
    hnoargC := by
      intro k hk
      obtain ⟨j, hj, rfl⟩ := List.getElem_of_mem hk
      exact (hcomb j hj).1
    hzC := by
      -- no combine kernel is `nanlen` / `nansumsq`
      intro p hp hk
      obtain ⟨j, hj, rfl⟩ := List.getElem_of_mem hp
      rw [List.getElem_zip] at hk
      exact absurd hk (not_or.mpr (hcomb j (Nat.lt_min.mp (List.length_zip ▸ hj)).1).2) }

def genCols {α} (ks : List Kernel) (fills : List Val) (L : List α) (M : α → List Val) : List (List Val) :=
  (ks.zip fills).map fun p => L.map fun g => blockVal p.1 p.2 (M g)

theorem sparseCols_eq_genCols (ks : List Kernel) (fills : List Val) (found : List Rat) (keys : List Key)
    (vals : List Val) :
    sparseCols ks fills found keys vals = genCols ks fills found (fun r => membersK (some r) keys vals) := rfl

/-- `_finalize_results` applies the count mask to *all* groups of the combined sparse intermediate,
    including the group `-1` of dropped elements, *before* the reindex to the requested labels.  When no fill value
    was given, a dropped group with fewer than `min_count` valid members therefore raises, although no requested
    label needs filling.  The hypothesis excludes exactly that. -/
def HDropped (R : Resolved) (codes : List Int) (vals : List Val) : Prop :=
  R.userFill = none → R.minCount > 0 → (-1 : Int) ∈ codes →
    R.minCount ≤ Spec.validCount (members (-1) codes vals)

instance (R : Resolved) (codes : List Int) (vals : List Val) : Decidable (HDropped R codes vals) := by
  unfold HDropped; infer_instance

theorem mem_codeKeys {r : Rat} {codes : List Int} : some r ∈ codeKeys codes ↔ ∃ c ∈ codes, r = (c : Rat) := by
  simp only [codeKeys, List.mem_map, Option.some.injEq]
  constructor
  · rintro ⟨c, hc, e⟩; exact ⟨c, hc, e.symm⟩
  · rintro ⟨c, hc, e⟩; exact ⟨c, hc, e.symm⟩

theorem presentKeys_codeKeys_ne_nil (codes : List Int) (hne : codes ≠ []) : presentKeys (codeKeys codes) ≠ [] := by
  rw [presentKeys_codeKeys]; simpa using hne

/-- `_finalize_results` + the final reindex on an intermediate over the labels found in integer codes (`a r`: the
    finalized value of label `r`) -/
theorem finish_codes (c : Call) (n : Nat) (x : Inter) (codes : List Int) (vals : List Val) (a : Rat → Val)
    (hn : c.ngroups = n) (hcodes : CodesOK codes n) (hlen : codes.length = vals.length) (hne : codes ≠ [])
    (hg : x.groups = (foundOf c.sort (codeKeys codes)).map some)
    (hv : finalizeVals c.R (if c.R.minCount > 0 then x.cols.dropLast else x.cols)
      = (foundOf c.sort (codeKeys codes)).map a)
    (hc : c.R.minCount > 0 → x.cols.getLastD []
      = (foundOf c.sort (codeKeys codes)).map fun r => countVal (membersK (some r) (codeKeys codes) vals))
    (H_dropped : HDropped c.R codes vals) :
    (match finalizeResults c.R x (some (rangeKeys n)) false with
      | .error e => .error e
      | .ok (gs, vs) => finalReindex c false gs vs)
      = (List.range n).mapM fun (g : Nat) =>
          if members (Int.ofNat g) codes vals = [] then fillOrError c.R.userFill
          else maskedSlot c.R (countVal (members (Int.ofNat g) codes vals)) (a ((Int.ofNat g : Int) : Rat)) := by
  have hfne : foundOf c.sort (codeKeys codes) ≠ [] := fun h =>
    presentKeys_codeKeys_ne_nil codes hne ((presentKeys_nil_iff_foundOf c.sort _).mpr h)
  refine finish_keys c c.R n x codes vals (fun κ => a (κ.getD 0)) hn hcodes hlen (by simpa [hg] using hfne)
    ?_ ?_ (by rw [hg, List.map_map]; exact hv) (fun hm => by rw [hg, List.map_map]; exact hc hm)
    (fun hmc huf => ⟨fun h => absurd h hne, H_dropped huf hmc⟩)
  · intro κ hκ
    rw [hg] at hκ
    obtain ⟨r, hr, rfl⟩ := List.mem_map.mp hκ
    exact .inl ((mem_foundOf _ _ _).mp hr)
  · intro κ hκ
    obtain ⟨cd, _, rfl⟩ := List.mem_map.mp hκ
    rw [hg]
    exact List.mem_map_of_mem ((mem_foundOf _ _ _).mpr hκ)

theorem runKnown_grouped_slots (R : Resolved) (s : Shape) (c : Call) (n : Nat) (floatData : Bool)
    (chunks : List Nat) (codes : List Int) (vals : List Val)
    (hR : c.R = R) (heng : c.eng = .npg) (hn : c.ngroups = n) (hs : s.Fits R) (hcodes : CodesOK codes n)
    (hlen : codes.length = vals.length) (hne : codes ≠ [])
    (hchunks : chunks ≠ []) (hsum : chunks.sum = codes.length)
    (hcombine : useGroupedCombine c floatData = true)
    (H_dropped : HDropped R codes vals) :
    runKnown c (.mapreduce false) floatData chunks (codeKeys codes) vals
      = (List.range n).mapM fun (g : Nat) =>
          if members (Int.ofNat g) codes vals = [] then fillOrError R.userFill
          else mrSlot R s (members (Int.ofNat g) codes vals) := by
  subst hR
  have hklen := codeKeys_length codes
  rw [runKnown_mapreduce_grouped c false _ _ _ _ hcombine, heng, mapreduce_sparse c chunks (codeKeys codes) vals c.splitEvery hs.groupedOK heng hchunks
    (by omega) (by omega) (fun _ _ => trivial)]
  rw [sparseInter_present _ _ _ _ _ (presentKeys_codeKeys_ne_nil codes hne), hn]
  refine (finish_codes c n
    { groups := (foundOf c.sort (codeKeys codes)).map some,
      cols := fcols c.R.chunk c.R.interFills (foundOf c.sort (codeKeys codes))
        (fun r => membersK (some r) (codeKeys codes) vals) }
    codes vals (fun r => s.mrVal (membersK (some r) (codeKeys codes) vals)) hn hcodes hlen
    hne rfl (finalize_shape_gen hs _ _) (count_shape_gen hs _ _) H_dropped).trans ?_
  apply mapM_congr
  intro g _
  simp only [membersK_codeKeys]
  rfl

/-- C02 for the grouped combine, end to end.  Map-reduce *without* reindexing at the block stage, combined
    with `_grouped_combine` (the plan used for `nanfirst`/`nanlast` on non-float data), equals the specification for
    every chunking and every `split_every`.  No `H_absent` is needed: absent labels are filled by the reindex in
    `_finalize_results` with the user's fill. -/
theorem mapreduce_grouped_eq_spec (R : Resolved) (s : Shape) (c : Call) (n : Nat) (floatData : Bool)
    (chunks : List Nat) (codes : List Int) (vals : List Val)
    (hR : c.R = R) (heng : c.eng = .npg) (hn : c.ngroups = n)
    (hshape : R.shape? = some s) (hcodes : CodesOK codes n) (hlen : codes.length = vals.length)
    (hne : codes ≠ [])
    (H_minmax : HMinMax R s) (H_dropped : HDropped R codes vals)
    (hchunks : chunks ≠ []) (hsum : chunks.sum = codes.length)
    (hcombine : useGroupedCombine c floatData = true) :
    runKnown c (.mapreduce false) floatData chunks (codeKeys codes) vals = specResult s.kernel R codes vals n := by
  have hs := (R.shape?_eq_some_iff s).mp hshape
  rw [runKnown_grouped_slots R s c n floatData chunks codes vals hR heng hn hs hcodes hlen hne hchunks hsum hcombine
    H_dropped, specResult_slots hs]
  apply mapM_congr
  intro g _
  by_cases hm : members (Int.ofNat g) codes vals = []
  · simp only [hm, if_true, specSlot_nil]
  · simp only [hm, if_false]
    exact mrSlot_eq_specSlot hs _ (Or.inr hm) H_minmax

/-- the right-hand side of C12: the found labels (sorted when `sort`, else in order of first appearance) and, per
    label, the specification slot of its members -/
def specUnknown (k : Kernel) (R : Resolved) (sort : Bool) (keys : List Key) (vals : List Val) :
    Except String (List Key × List Val) :=
  match (foundOf sort keys).mapM (fun r => specSlot R k (membersK (some r) keys vals)) with
  | .error e => .error e
  | .ok vs => .ok ((foundOf sort keys).map some, vs)

/-- When every label is missing, `_finalize_results` still applies the count mask to the `NaN`
    placeholder group (count 0) *before* `_aggregate` drops that group: with `min_count > 0` and no fill value it
    raises `ValueError("Filling is required…")` although there is no group at all.  The hypothesis excludes exactly
    that combination (see `runUnknown_all_missing_error`). -/
def HAllMissing (R : Resolved) (keys : List Key) : Prop :=
  presentKeys keys = [] → R.minCount > 0 → R.userFill ≠ none

instance (R : Resolved) (keys : List Key) : Decidable (HAllMissing R keys) := by
  unfold HAllMissing; infer_instance

theorem filter_isSome_zip_map_some (found : List Rat) (vs : List Val) :
    ((found.map some).zip vs).filter (fun p => p.1.isSome) = (found.map some).zip vs := by
  apply List.filter_eq_self.mpr
  intro p hp
  have := (List.of_mem_zip hp).1
  obtain ⟨r, _, e⟩ := List.mem_map.mp this
  rw [← e]; rfl

theorem finalize_all_missing {s : Shape} {R : Resolved} (hs : s.Fits R) (sort : Bool) (keys : List Key)
    (vals : List Val) (h : presentKeys keys = []) :
    finalizeResults R (sparseInter R.chunk R.interFills sort keys vals) none false
      = match maskedSlot R (countVal []) (s.mrVal []) with
        | .error e => .error e
        | .ok v => .ok ([none], [v]) := by
  rw [sparseInter_all_missing _ _ _ _ _ h, finalizeResults_fcols hs [none] [()] (fun _ => []) none false,
    mapM_except_cons]
  cases maskedSlot R (countVal []) (s.mrVal []) <;> rfl

theorem specUnknown_all_missing (k : Kernel) (R : Resolved) (sort : Bool) (keys : List Key) (vals : List Val)
    (h : presentKeys keys = []) : specUnknown k R sort keys vals = .ok ([], []) := by
  unfold specUnknown
  rw [(presentKeys_nil_iff_foundOf sort keys).mp h]
  rfl

/-- the tail of `runUnknown`: `_finalize_results` without expected groups, then dropping null labels -/
theorem runUnknown_tail {s : Shape} {R : Resolved} (hs : s.Fits R) (sort : Bool) (keys : List Key) (vals : List Val)
    (hlen : keys.length = vals.length) (H_minmax : HMinMax R s) (H_allmissing : HAllMissing R keys) :
    (match finalizeResults R (sparseInter R.chunk R.interFills sort keys vals) none false with
      | .error e => .error e
      | .ok (gs, vs) =>
        .ok ((((gs.zip vs).filter fun p => p.1.isSome)).map (·.1), (((gs.zip vs).filter fun p => p.1.isSome)).map (·.2)))
      = specUnknown s.kernel R sort keys vals := by
  by_cases hpres : presentKeys keys = []
  · -- every label missing: one placeholder group, dropped after the mask
    rw [finalize_all_missing hs sort keys vals hpres, specUnknown_all_missing _ _ _ _ _ hpres, maskedSlot_countVal]
    by_cases hmask : R.minCount > 0 ∧ Spec.validCount [] < R.minCount
    · cases hu : R.userFill with
      | none => exact absurd hu (H_allmissing hpres hmask.1)
      | some f => simp only [hmask, and_self, if_true, fillOrError, optToExcept]; rfl
    · simp only [hmask, if_false]; rfl
  · rw [sparseInter_present _ _ _ _ _ hpres, finalizeResults_fcols hs _ (foundOf sort keys)
      (fun r => membersK (some r) keys vals) none false]
    unfold specUnknown
    have hslots : (foundOf sort keys).mapM (fun r => maskedSlot R (countVal (membersK (some r) keys vals))
          (s.mrVal (membersK (some r) keys vals)))
        = (foundOf sort keys).mapM (fun r => specSlot R s.kernel (membersK (some r) keys vals)) := by
      apply mapM_congr
      intro r hr
      have hne : membersK (some r) keys vals ≠ [] :=
        membersK_ne_nil_of_mem _ _ _ ((mem_foundOf _ _ _).mp hr) (by omega)
      exact mrSlot_eq_specSlot hs _ (Or.inr hne) H_minmax
    rw [hslots]
    cases hm : (foundOf sort keys).mapM (fun r => specSlot R s.kernel (membersK (some r) keys vals)) with
    | error e => rfl
    | ok vs =>
      have hl : vs.length = (foundOf sort keys).length := mapM_except_length _ _ _ hm
      simp only [filter_isSome_zip_map_some]
      rw [List.map_fst_zip (by simp [hl]), List.map_snd_zip (by simp [hl])]

/-- C12, end to end.  With labels unknown until compute time (`runUnknown`: map-reduce without reindexing,
    `_grouped_combine`, `_finalize_results` without expected groups, null labels dropped) the returned
    `(groups, values)` are the distinct non-missing labels and, per label, the NumPy reduction of the elements carrying
    it (the user's fill / `ValueError` when it has fewer than `min_count` valid members), for every chunking and every
    `split_every`.  When every label is missing the result is `.ok ([], [])` (under `H_allmissing`). -/
theorem runUnknown_eq_spec (R : Resolved) (s : Shape) (c : Call) (chunks : List Nat) (keys : List Key)
    (vals : List Val)
    (hR : c.R = R) (heng : c.eng = .npg) (hshape : R.shape? = some s)
    (hlen : keys.length = vals.length)
    (H_minmax : HMinMax R s) (H_allmissing : HAllMissing R keys)
    (hchunks : chunks ≠ []) (hsum : chunks.sum = keys.length) :
    runUnknown c chunks keys vals = specUnknown s.kernel R c.sort keys vals := by
  subst hR
  have hs := (c.R.shape?_eq_some_iff s).mp hshape
  rw [runUnknown_eq, heng, mapreduce_sparse c chunks keys vals c.splitEvery hs.groupedOK heng hchunks hsum hlen
    (fun _ _ => trivial)]
  exact runUnknown_tail hs c.sort keys vals hlen H_minmax H_allmissing

theorem runUnknown_all_missing (R : Resolved) (s : Shape) (c : Call) (chunks : List Nat) (keys : List Key)
    (vals : List Val)
    (hR : c.R = R) (heng : c.eng = .npg) (hshape : R.shape? = some s)
    (hlen : keys.length = vals.length) (hmiss : presentKeys keys = [])
    (H_minmax : HMinMax R s) (hfill : R.minCount > 0 → R.userFill ≠ none)
    (hchunks : chunks ≠ []) (hsum : chunks.sum = keys.length) :
    runUnknown c chunks keys vals = .ok ([], []) := by
  rw [runUnknown_eq_spec R s c chunks keys vals hR heng hshape hlen H_minmax (fun _ => hfill) hchunks hsum,
    specUnknown_all_missing _ _ _ _ _ hmiss]

/-- C12: with labels discovered at compute time the result does not depend on the chunking nor on `split_every` -/
theorem runUnknown_chunking_tree_irrelevant (R : Resolved) (s : Shape) (c₁ c₂ : Call) (chunks₁ chunks₂ : List Nat)
    (keys : List Key) (vals : List Val)
    (hR₁ : c₁.R = R) (heng₁ : c₁.eng = .npg) (hR₂ : c₂.R = R) (heng₂ : c₂.eng = .npg) (hsort : c₁.sort = c₂.sort)
    (hshape : R.shape? = some s)
    (hlen : keys.length = vals.length)
    (H_minmax : HMinMax R s) (H_allmissing : HAllMissing R keys)
    (hchunks₁ : chunks₁ ≠ []) (hsum₁ : chunks₁.sum = keys.length)
    (hchunks₂ : chunks₂ ≠ []) (hsum₂ : chunks₂.sum = keys.length) :
    runUnknown c₁ chunks₁ keys vals = runUnknown c₂ chunks₂ keys vals := by
  rw [runUnknown_eq_spec R s c₁ chunks₁ keys vals hR₁ heng₁ hshape hlen H_minmax H_allmissing hchunks₁ hsum₁,
    runUnknown_eq_spec R s c₂ chunks₂ keys vals hR₂ heng₂ hshape hlen H_minmax H_allmissing hchunks₂ hsum₂, hsort]

/-! For integer data `_initialize_aggregation` resolves `nanfirst` / `nanlast` with the intermediate fill `INT_MIN`
  (not NaN), so these blueprints are not in `floatColumns` and have no `Shape`.  The grouped-combine law still
  holds on NaN-free values (integer data cannot hold NaN), which gives the tree theorem for these blueprints. -/

theorem GLaw_nanfirst_nanlast (k : Kernel) (hk : k = .nanfirst ∨ k = .nanlast) (f : Val) :
    GLaw (fun v => v.isNaN = false) k k f := by
  intro parts hne hparts
  have hvalid : ∀ p ∈ parts, dropNaN p ≠ [] := fun p hp => by
    rw [dropNaN_eq_self (hparts p hp).2]; exact (hparts p hp).1
  have hblock : ∀ p ∈ parts, blockVal k f p = kEval k p := fun p hp => blockVal_of_valid _ _ _ (hvalid p hp)
  have hnn : ∀ p ∈ parts, (kEval k p).isNaN = false := by
    intro p hp
    rcases hk with rfl | rfl
    · exact firstNonNaN_nonNaN p (hvalid p hp)
    · exact lastNonNaN_nonNaN p (hvalid p hp)
  rw [List.map_congr_left hblock]
  obtain ⟨p0, hp0⟩ := List.exists_mem_of_ne_nil parts hne
  have h1 : dropNaN (parts.map (kEval k)) ≠ [] :=
    dropNaN_ne_nil_of_mem (List.mem_map.mpr ⟨p0, hp0, rfl⟩) (hnn p0 hp0)
  obtain ⟨x, hx⟩ := List.exists_mem_of_ne_nil p0 (hparts p0 hp0).1
  have h2 : dropNaN parts.flatten ≠ [] :=
    dropNaN_ne_nil_of_mem (List.mem_flatten.mpr ⟨_, hp0, hx⟩) ((hparts p0 hp0).2 x hx)
  rw [blockVal_of_valid _ _ _ h1, blockVal_of_valid _ _ _ h2]
  rcases hk with rfl | rfl
  · exact firstNonNaN_map_flatten parts
  · exact lastNonNaN_map_flatten parts

theorem groupedOK_intdata (R : Resolved) (k : Kernel) (hk : k = .nanfirst ∨ k = .nanlast) (f : Val)
    (harg : R.isArg = false) (hchunk : R.chunk = [k]) (hcombine : R.combine = [k]) (hfills : R.interFills = [f]) :
    GroupedOK R (fun v => v.isNaN = false) := by
  have hk' : isArgKernel k = false ∧ ¬ (k = .nanlen ∨ k = .nansumsq) := by rcases hk with rfl | rfl <;> decide
  have hna : ∀ k' ∈ [k], isArgKernel k' = false := fun k' h => List.mem_singleton.mp h ▸ hk'.1
  have hzero : ∀ p ∈ [k].zip [f], (p.1 = .nanlen ∨ p.1 = .nansumsq) → p.2 = Val.zero := by
    intro p hp hkp
    cases List.mem_singleton.mp hp
    exact absurd hkp hk'.2
  exact {
    harg := harg
    hc := by rw [hchunk, hcombine]
    hf := by rw [hchunk, hfills]; rfl
    hpos := by rw [hchunk]; exact Nat.one_pos
    hlaw := by
      intro j hj
      have : j = 0 := by rw [hchunk] at hj; simpa using hj
      subst this
      simp only [hchunk, hcombine, hfills, List.getElem_cons_zero]
      exact GLaw_nanfirst_nanlast k hk f
    hnoarg := hchunk ▸ hna
    hz := by rw [hchunk, hfills]; exact hzero
    hnoargC := hcombine ▸ hna
    hzC := by rw [hcombine, hfills]; exact hzero }

/-- Integer-typed `nanfirst` / `nanlast`, up to the combined intermediates (not the finalized result): with an
    arbitrary intermediate fill (e.g. `INT_MIN`) and NaN-free values, map-reduce without reindexing + `_grouped_combine`
    yields, for every chunking and every `split_every`, the found labels and per label the first / last member. -/
theorem mapreduce_sparse_intdata_partial (c : Call) (k : Kernel) (hk : k = .nanfirst ∨ k = .nanlast) (f : Val)
    (chunks : List Nat) (keys : List Key) (vals : List Val) (se : Nat)
    (harg : c.R.isArg = false) (hchunk : c.R.chunk = [k]) (hcombine : c.R.combine = [k])
    (hfills : c.R.interFills = [f]) (heng : c.eng = .npg)
    (hchunks : chunks ≠ []) (hsum : chunks.sum = keys.length) (hlen : keys.length = vals.length)
    (hnonan : ∀ v ∈ vals, v.isNaN = false) (hpres : presentKeys keys ≠ []) :
    groupedCombine c.R .npg c.sort (treeReduce (groupedCombine c.R .npg c.sort) se
        (blockStage c false chunks keys vals))
      = { groups := (foundOf c.sort keys).map some,
          cols := [(foundOf c.sort keys).map fun r => kEval k (membersK (some r) keys vals)] } := by
  rw [mapreduce_sparse c chunks keys vals se (groupedOK_intdata c.R k hk f harg hchunk hcombine hfills) heng hchunks
    hsum hlen hnonan]
  simp only [sparseInter, hpres, if_false, sparseCols, hchunk, hfills, List.zip_cons_cons, List.zip_nil_right,
    List.map_cons, List.map_nil]
  congr 2
  apply List.map_congr_left
  intro r hr
  apply blockVal_of_valid
  rw [dropNaN_eq_self fun x hx => hnonan x (mem_of_mem_membersK hx)]
  exact membersK_ne_nil_of_mem _ _ vals ((mem_foundOf _ _ _).mp hr) (by omega)

end Flox.Grp
