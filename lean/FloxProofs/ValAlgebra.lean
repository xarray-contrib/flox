/-
  Algebraic laws of the exact extended numbers `Val` (IEEE semantics without rounding): the monoids of `add`, `mul`,
  `max`, `min` behind the chunk / combine decomposition (C04) and tree-shape independence (C03), `land` / `lor` behind
  `all` / `any` (associative and commutative; `one` / `zero` are identities only up to `ofBool ∘ truthy`), NaN-freeness
  and finiteness facts.
-/
import FloxModel.Val
import FloxProofs.Monoid

namespace Flox
namespace Val

@[simp] theorem add_nan_left (a : Val) : add nan a = nan := by cases a <;> rfl
@[simp] theorem add_nan_right (a : Val) : add a nan = nan := by cases a <;> rfl

theorem add_zero_left (a : Val) : add zero a = a := by
  cases a <;> simp [add, zero] <;> grind

theorem add_zero_right (a : Val) : add a zero = a := by
  cases a <;> simp [add, zero] <;> grind

theorem add_comm (a b : Val) : add a b = add b a := by
  cases a <;> cases b <;> simp [add, Rat.add_comm]

theorem add_assoc (a b c : Val) : add (add a b) c = add a (add b c) := by
  cases a <;> cases b <;> cases c <;> simp [add, Rat.add_assoc]

theorem mul_one_left (a : Val) : mul one a = a := by
  cases a <;> simp [mul, one] <;> grind

theorem mul_one_right (a : Val) : mul a one = a := by
  cases a <;> simp [mul, one] <;> grind

theorem max_ninf_left (a : Val) : max ninf a = a := by cases a <;> rfl
theorem max_ninf_right (a : Val) : max a ninf = a := by cases a <;> rfl
theorem min_pinf_left (a : Val) : min pinf a = a := by cases a <;> rfl
theorem min_pinf_right (a : Val) : min a pinf = a := by cases a <;> rfl

theorem max_assoc (a b c : Val) : max (max a b) c = max a (max b c) := by
  -- by the constructors (NaN, ∓inf, finite) of the three values; what is left are the triples with at least two finite
  -- values, nested `if _ ≤ _` over `Rat`, which `grind` decides by linear order reasoning
  cases a <;> cases b <;> cases c <;> simp [max] <;> grind

theorem max_comm (a b : Val) : max a b = max b a := by
  cases a <;> cases b <;> simp [max] <;> grind

theorem max_idem (a : Val) : max a a = a := by cases a <;> simp [max]

/-! `min` is the order dual of `max`: its laws are those of `max` transported along `neg` -/

theorem neg_neg (a : Val) : neg (neg a) = a := by
  cases a <;> simp [neg, Rat.neg_neg]

theorem min_eq_neg_max (a b : Val) : min a b = neg (max (neg a) (neg b)) := by
  cases a <;> cases b <;> simp only [min, max, neg, Rat.neg_neg] <;> grind [neg, Rat.neg_neg]

theorem min_assoc (a b c : Val) : min (min a b) c = min a (min b c) := by
  simp only [min_eq_neg_max, neg_neg, max_assoc]

theorem min_comm (a b : Val) : min a b = min b a := by
  simp only [min_eq_neg_max, max_comm]

theorem min_idem (a : Val) : min a a = a := by
  simp only [min_eq_neg_max, max_idem, neg_neg]

theorem rat_mul_neg_iff (a b : Rat) : a * b < 0 ↔ (a < 0 ∧ 0 < b) ∨ (0 < a ∧ b < 0) := by
  have htri : a < 0 ∨ a = 0 ∨ 0 < a := by grind
  rcases htri with ha | rfl | ha
  · have h := Rat.mul_pos_iff_of_pos_left (a := -a) (b := b) (by grind)
    rw [Rat.neg_mul] at h
    grind
  · simp
  · have h := Rat.mul_neg_iff_of_pos_left (b := b) ha
    grind

@[simp] theorem mul_nan_left (a : Val) : mul nan a = nan := by cases a <;> rfl
@[simp] theorem mul_nan_right (a : Val) : mul a nan = nan := by cases a <;> rfl

theorem mul_comm (a b : Val) : mul a b = mul b a := by
  cases a <;> cases b <;> simp [mul, Rat.mul_comm]

/-! `mul` commutes with `neg` in each argument and every value is `x` or `neg x` with `x ≠ -inf`: associativity is
    checked on the triples without `-inf` only; the sign cases follow by symmetry. -/

theorem mul_neg_left (a b : Val) : mul (neg a) b = neg (mul a b) := by
  cases a <;> cases b <;> simp only [mul, neg, Rat.neg_mul] <;> grind [neg]

theorem mul_neg_right (a b : Val) : mul a (neg b) = neg (mul a b) := by
  rw [mul_comm, mul_neg_left, mul_comm]

theorem eq_or_eq_neg (a : Val) : ∃ x, x ≠ ninf ∧ (a = x ∨ a = neg x) := by
  cases a with
  | ninf => exact ⟨pinf, by simp, Or.inr rfl⟩
  | nan => exact ⟨nan, by simp, Or.inl rfl⟩
  | pinf => exact ⟨pinf, by simp, Or.inl rfl⟩
  | fin q => exact ⟨fin q, by simp, Or.inl rfl⟩

theorem mul_assoc_of_ne_ninf (a b c : Val) (ha : a ≠ ninf) (hb : b ≠ ninf) (hc : c ≠ ninf) :
    mul (mul a b) c = mul a (mul b c) := by
  -- by the constructors of the three values; a triple with a NaN or three finite values closes by unfolding `mul`, the
  -- others (`+inf` among finite values) compare the sign tests `q = 0`, `q < 0` on factors with those on products:
  -- `grind` is given when a product of rationals is zero and when it is negative
  cases a <;> cases b <;> cases c <;>
    simp only [mul, Rat.mul_assoc, ne_eq, not_true_eq_false] at ha hb hc ⊢ <;>
    grind [rat_mul_neg_iff, Rat.mul_eq_zero]

theorem mul_assoc (a b c : Val) : mul (mul a b) c = mul a (mul b c) := by
  obtain ⟨x, hx, ha⟩ := eq_or_eq_neg a
  obtain ⟨y, hy, hb⟩ := eq_or_eq_neg b
  obtain ⟨z, hz, hc⟩ := eq_or_eq_neg c
  have h := mul_assoc_of_ne_ninf x y z hx hy hz
  rcases ha with rfl | rfl <;> rcases hb with rfl | rfl <;> rcases hc with rfl | rfl <;>
    simp only [mul_neg_left, mul_neg_right, h]

theorem isNaN_iff (a : Val) : a.isNaN = true ↔ a = nan := by cases a <;> simp [isNaN]

theorem isNaN_false_iff (a : Val) : a.isNaN = false ↔ a ≠ nan := by cases a <;> simp [isNaN]

@[simp] theorem isNaN_nan : nan.isNaN = true := rfl
@[simp] theorem isNaN_ninf : ninf.isNaN = false := rfl
@[simp] theorem isNaN_pinf : pinf.isNaN = false := rfl
@[simp] theorem isNaN_fin (q : Rat) : (fin q).isNaN = false := rfl
@[simp] theorem isNaN_ofNat (n : Nat) : (ofNat n).isNaN = false := rfl
@[simp] theorem isNaN_ofBool (b : Bool) : (ofBool b).isNaN = false := by cases b <;> rfl

@[simp] theorem max_nan_left (a : Val) : max nan a = nan := by cases a <;> rfl
@[simp] theorem max_nan_right (a : Val) : max a nan = nan := by cases a <;> rfl
@[simp] theorem min_nan_left (a : Val) : min nan a = nan := by cases a <;> rfl
@[simp] theorem min_nan_right (a : Val) : min a nan = nan := by cases a <;> rfl

theorem isNaN_max (a b : Val) : (max a b).isNaN = (a.isNaN || b.isNaN) := by
  cases a <;> cases b <;> simp [max, isNaN] <;> grind [isNaN]

theorem isNaN_neg (a : Val) : (neg a).isNaN = a.isNaN := by cases a <;> rfl

theorem isNaN_min (a b : Val) : (min a b).isNaN = (a.isNaN || b.isNaN) := by
  simp only [min_eq_neg_max, isNaN_neg, isNaN_max]

@[simp] theorem truthy_ofBool (b : Bool) : (ofBool b).truthy = b := by
  cases b <;> simp [ofBool, truthy] <;> decide +kernel

@[simp] theorem truthy_one : one.truthy = true := truthy_ofBool true
@[simp] theorem truthy_zero : zero.truthy = false := truthy_ofBool false

theorem ofBool_true : ofBool true = one := rfl
theorem ofBool_false : ofBool false = zero := rfl

theorem land_comm (a b : Val) : land a b = land b a := by simp [land, Bool.and_comm]
theorem lor_comm (a b : Val) : lor a b = lor b a := by simp [lor, Bool.or_comm]

theorem land_assoc (a b c : Val) : land (land a b) c = land a (land b c) := by
  simp [land, Bool.and_assoc]

theorem lor_assoc (a b c : Val) : lor (lor a b) c = lor a (lor b c) := by
  simp [lor, Bool.or_assoc]

theorem land_one_left (a : Val) : land one a = ofBool a.truthy := by simp [land]
theorem land_one_right (a : Val) : land a one = ofBool a.truthy := by simp [land]
theorem lor_zero_left (a : Val) : lor zero a = ofBool a.truthy := by simp [lor]
theorem lor_zero_right (a : Val) : lor a zero = ofBool a.truthy := by simp [lor]

theorem ofNat_zero : ofNat 0 = zero := by simp [ofNat, zero]

theorem ofNat_add (m n : Nat) : add (ofNat m) (ofNat n) = ofNat (m + n) := by
  simp [ofNat, add, Rat.natCast_add]

theorem max_sel (a b : Val) : max a b = a ∨ max a b = b := by
  cases a <;> cases b <;> simp [max] <;> grind

theorem min_sel (a b : Val) : min a b = a ∨ min a b = b := by
  rw [min_eq_neg_max]
  rcases max_sel (neg a) (neg b) with h | h <;> rw [h, neg_neg] <;> simp

theorem max_pinf_left {a : Val} (h : a.isNaN = false) : max pinf a = pinf := by
  cases a <;> first | rfl | cases h

theorem min_ninf_left {a : Val} (h : a.isNaN = false) : min ninf a = ninf := by
  cases a <;> first | rfl | cases h

theorem addMon : Mon add zero := ⟨add_assoc, add_zero_left, add_zero_right⟩
theorem mulMon : Mon mul one := ⟨mul_assoc, mul_one_left, mul_one_right⟩
theorem maxSemilat : Semilat max ninf :=
  { assoc := max_assoc, id_left := max_ninf_left, id_right := max_ninf_right, comm := max_comm, idem := max_idem }
theorem minSemilat : Semilat min pinf :=
  { assoc := min_assoc, id_left := min_pinf_left, id_right := min_pinf_right, comm := min_comm, idem := min_idem }

end Val

def Val.isFinite : Val → Bool
  | .fin _ => true
  | _ => false

theorem Val.isFinite_add (a b : Val) : (Val.add a b).isFinite = (a.isFinite && b.isFinite) := by
  cases a <;> cases b <;> rfl

theorem Val.isFinite_mul_self (a : Val) : (Val.mul a a).isFinite = a.isFinite := by
  cases a <;> rfl

theorem Val.mul_self_ne_ninf (a : Val) : Val.mul a a ≠ Val.ninf := by
  cases a <;> simp [Val.mul]

theorem Val.add_eq_inf {a b i : Val} (hi : i = Val.pinf ∨ i = Val.ninf) (h : Val.add a b = i) : a = i ∨ b = i := by
  rcases hi with rfl | rfl <;> cases a <;> cases b <;> simp_all [Val.add]

theorem Val.div_nan_left (a : Val) : Val.div Val.nan a = Val.nan := by cases a <;> rfl

end Flox
