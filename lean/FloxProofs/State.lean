/-
  Lemmas for C14 (FloxModel/State.lean).  With the copies in place a call leaves the registry alone and, on sound caches,
  returns `pureResult`; `eval` depends on a graph through `lookup` only, so the union of compatible graphs preserves it;
  layer names are injective in the hashed ingredients, so a covering token table makes all `configGraph`s compatible.
-/
import FloxModel.State
import FloxProofs.MapM

namespace Flox.State

theorem initializeWith_true_of_named (reg : Registry) (a : InitArgs) {f : String} (h : a.func = .named f) :
    initializeWith true reg a = (reg, ⟨(reg.aggs.lookup f).map (specialise · a), none⟩) := by
  unfold initializeWith
  rw [h]
  dsimp only
  cases reg.aggs.lookup f <;> rfl

theorem initializeWith_true_of_user (reg : Registry) (a : InitArgs) {bp : Blueprint} (h : a.func = .user bp) :
    initializeWith true reg a = (reg, ⟨some (specialise bp a), some bp⟩) := by
  unfold initializeWith
  rw [h]
  rfl

theorem scanInitWith_true (reg : Registry) (f d : String) :
    scanInitWith true reg f d = (reg, (reg.scans.lookup f).map (specialiseScan · d)) := by
  unfold scanInitWith
  cases reg.scans.lookup f <;> rfl

theorem initializeWith_true_registry (reg : Registry) (a : InitArgs) : (initializeWith true reg a).1 = reg := by
  cases h : a.func with
  | named f => rw [initializeWith_true_of_named reg a h]
  | user bp => rw [initializeWith_true_of_user reg a h]

theorem scanInitWith_true_registry (reg : Registry) (f d : String) : (scanInitWith true reg f d).1 = reg := by
  rw [scanInitWith_true]

theorem stepWith_true_registry (s : State) (c : ApiCall) : (stepWith true s c).1.registry = s.registry := by
  cases c with
  | init a => exact initializeWith_true_registry s.registry a
  | scanInit f d => exact scanInitWith_true_registry s.registry f d
  | _ => rfl

theorem runWith_true_registry (cs : List ApiCall) : ∀ s : State, (runWith true s cs).registry = s.registry := by
  induction cs with
  | nil => intro s; rfl
  | cons c cs ih => intro s; exact (ih _).trans (stepWith_true_registry s c)

theorem initializeWith_true_user (reg : Registry) (a : InitArgs) (bp : Blueprint) (h : a.func = .user bp) :
    (initializeWith true reg a).2.userAfter = some bp := by
  rw [initializeWith_true_of_user reg a h]

section Memo
variable {α κ β : Type} [BEq κ]

/-- every live binding of the table holds the value of the pure function -/
def MemoSound (key : α → κ) (f : α → β) (tbl : List (κ × β)) : Prop :=
  ∀ a b, tbl.lookup (key a) = some b → b = f a

/-- the key determines the value (true when the key is an injective token of the full argument) -/
def KeyCovers (key : α → κ) (f : α → β) : Prop := ∀ a a', key a = key a' → f a = f a'

theorem memoSound_nil (key : α → κ) (f : α → β) : MemoSound key f [] := fun _ _ h => nomatch h

theorem memoCall_result (key : α → κ) (f : α → β) (tbl : List (κ × β)) (a : α) (h : MemoSound key f tbl) :
    (memoCall key f tbl a).2 = f a := by
  unfold memoCall
  split
  · next b hl => exact h a b hl
  · rfl

theorem memoCall_sound [LawfulBEq κ] (key : α → κ) (f : α → β) (tbl : List (κ × β)) (a : α) (hk : KeyCovers key f)
    (h : MemoSound key f tbl) : MemoSound key f (memoCall key f tbl a).1 := by
  unfold memoCall
  split
  · exact h
  · intro a' b' hb
    rw [List.lookup_cons] at hb
    split at hb
    · next he => exact (Option.some.inj hb).symm.trans (hk a a' (eq_of_beq he).symm)
    · exact h a' b' hb

theorem lookup_evict [LawfulBEq κ] (keep : κ → Bool) (tbl : List (κ × β)) (k : κ) :
    (evict keep tbl).lookup k = if keep k then tbl.lookup k else none := by
  induction tbl with
  | nil => simp [evict]
  | cons e rest ih =>
    obtain ⟨k', v⟩ := e
    rw [evict, List.filter_cons, ← evict]
    by_cases he : k == k'
    · cases eq_of_beq he
      cases hk : keep k <;> simp [hk, ih]
    · cases hk : keep k' <;> simp [ih, he, List.lookup_cons]

theorem evict_sound [LawfulBEq κ] (key : α → κ) (f : α → β) (keep : κ → Bool) (tbl : List (κ × β)) (h : MemoSound key f tbl) :
    MemoSound key f (evict keep tbl) := by
  intro a b hb
  rw [lookup_evict] at hb
  split at hb
  · exact h a b hb
  · cases hb

end Memo

def Inv (s : State) : Prop := MemoSound id optimalFn s.chunkCache ∧ MemoSound id partsFn s.partsCache

theorem keyCovers_id {α β : Type} (f : α → β) : KeyCovers id f := fun _ _ h => congrArg f h

theorem inv_fresh (reg : Registry) : Inv (fresh reg) := ⟨memoSound_nil _ _, memoSound_nil _ _⟩

theorem stepWith_inv (copy : Bool) (s : State) (c : ApiCall) (h : Inv s) : Inv (stepWith copy s c).1 := by
  obtain ⟨h1, h2⟩ := h
  cases c with
  | init a => exact ⟨h1, h2⟩
  | scanInit f d => exact ⟨h1, h2⟩
  | optimalChunks ch l => exact ⟨memoCall_sound id optimalFn _ _ (keyCovers_id _) h1, h2⟩
  | getParts se ch => exact ⟨h1, memoCall_sound id partsFn _ _ (keyCovers_id _) h2⟩
  | evictChunks n => exact ⟨evict_sound _ _ (fun k : ChunkKey => k.2.length ≤ n) _ h1, h2⟩
  | evictParts n => exact ⟨h1, evict_sound _ _ (fun k : PartsKey => k.2.length ≤ n) _ h2⟩

theorem runWith_inv (copy : Bool) (cs : List ApiCall) : ∀ s : State, Inv s → Inv (runWith copy s cs) := by
  induction cs with
  | nil => intro s h; exact h
  | cons c cs ih => intro s h; exact ih _ (stepWith_inv copy s c h)

theorem stepWith_true_result (s : State) (c : ApiCall) (h : Inv s) : (stepWith true s c).2 = pureResult s.registry c := by
  cases c with
  | init a =>
    cases hf : a.func with
    | named f => simp only [stepWith, pureResult, initializeWith_true_of_named _ a hf, hf]
    | user bp => simp only [stepWith, pureResult, initializeWith_true_of_user _ a hf, hf]
  | scanInit f d => simp only [stepWith, pureResult, scanInitWith_true]
  | optimalChunks ch l => exact congrArg ApiResult.chunks (memoCall_result id optimalFn s.chunkCache (ch, l) h.1)
  | getParts se ch => exact congrArg ApiResult.parts (memoCall_result id partsFn s.partsCache (se, ch) h.2)
  | evictChunks n => rfl
  | evictParts n => rfl

theorem traceWith_true (cs : List ApiCall) : ∀ s : State, Inv s → traceWith true s cs = cs.map (pureResult s.registry) := by
  induction cs with
  | nil => intro s _; rfl
  | cons c cs ih =>
    intro s h
    rw [traceWith, List.map_cons, ih _ (stepWith_inv true s c h), stepWith_true_result s c h, stepWith_true_registry]

section Merge
variable {κ ω V : Type} [BEq κ]

theorem lookup_merge (g₁ g₂ : Graph κ ω) (k : κ) : (merge g₁ g₂).lookup k = (g₂.lookup k).or (g₁.lookup k) :=
  List.lookup_append

theorem lookup_merge_right {g₁ g₂ : Graph κ ω} {k : κ} {t : Task κ ω} (h : g₂.lookup k = some t) :
    (merge g₁ g₂).lookup k = some t := by
  rw [lookup_merge, h, Option.some_or]

theorem lookup_merge_left {g₁ g₂ : Graph κ ω} (hc : Compatible g₁ g₂) {k : κ} {t : Task κ ω}
    (h : g₁.lookup k = some t) : (merge g₁ g₂).lookup k = some t := by
  cases h₂ : g₂.lookup k with
  | none => rw [lookup_merge, h₂, h, Option.none_or]
  | some t₂ => rw [hc k t t₂ h h₂]; exact lookup_merge_right h₂

theorem eval_mono (sem : ω → List V → V) {g g' : Graph κ ω} (h : ∀ k t, g.lookup k = some t → g'.lookup k = some t) :
    ∀ n k v, eval sem g n k = some v → eval sem g' n k = some v := by
  intro n
  induction n with
  | zero => intro k v hv; cases hv
  | succ n ih =>
    intro k v hv
    unfold eval at hv ⊢
    split at hv
    · cases hv
    · next t hl =>
      obtain ⟨vs, hvs, rfl⟩ := Option.map_eq_some_iff.mp hv
      rw [h k t hl]
      exact Option.map_eq_some_iff.mpr ⟨vs, by simpa using mapM_option_transfer _ _ id ih t.deps vs hvs, rfl⟩

theorem merge_safe_left (sem : ω → List V → V) (g₁ g₂ : Graph κ ω) (hc : Compatible g₁ g₂) :
    ∀ n k v, eval sem g₁ n k = some v → eval sem (merge g₁ g₂) n k = some v :=
  eval_mono sem fun _ _ => lookup_merge_left hc

/-- the later graph wins every shared key: no hypothesis needed -/
theorem merge_safe_right (sem : ω → List V → V) (g₁ g₂ : Graph κ ω) :
    ∀ n k v, eval sem g₂ n k = some v → eval sem (merge g₁ g₂) n k = some v :=
  eval_mono sem fun _ _ => lookup_merge_right

theorem compatible_symm (g₁ g₂ : Graph κ ω) (h : Compatible g₁ g₂) : Compatible g₂ g₁ :=
  fun k t₂ t₁ h2 h1 => (h k t₁ t₂ h1 h2).symm

end Merge

theorem mem_kind_all (k : Kind) : k ∈ Kind.all := by cases k <;> decide

theorem tokenCovers_iff : tokenCovers = true ↔ ∀ k, (∀ i ∈ meaningOfKind k, i ∈ fieldsOfKind k) ∧
    ∀ d ∈ depsOfKind k, ∀ i ∈ fieldsOfKind d, i ∈ fieldsOfKind k := by
  simp [tokenCovers, mem_kind_all]

theorem layerName_eq_iff {c₁ c₂ : Config} {k₁ k₂ : Kind} :
    layerName c₁ k₁ = layerName c₂ k₂ ↔ k₁ = k₂ ∧ ∀ i ∈ fieldsOfKind k₁, c₁ i = c₂ i := by
  constructor
  · intro h
    obtain ⟨rfl, hf⟩ := Prod.mk.inj h
    exact ⟨rfl, List.map_inj_left.mp hf⟩
  · rintro ⟨rfl, hf⟩
    exact congrArg (Prod.mk k₁) (List.map_inj_left.mpr hf)

theorem layerTask_eq_of_name_eq (h : tokenCovers = true) (c₁ c₂ : Config) (k₁ k₂ : Kind)
    (hn : layerName c₁ k₁ = layerName c₂ k₂) : layerTask c₁ k₁ = layerTask c₂ k₂ := by
  obtain ⟨rfl, hagree⟩ := layerName_eq_iff.mp hn
  obtain ⟨hmeaning, hdeps⟩ := tokenCovers_iff.mp h k₁
  have hm : (meaningOfKind k₁).map c₁ = (meaningOfKind k₁).map c₂ :=
    List.map_inj_left.mpr fun i hi => hagree i (hmeaning i hi)
  have hd : (depsOfKind k₁).map (layerName c₁) = (depsOfKind k₁).map (layerName c₂) :=
    List.map_inj_left.mpr fun d hd => layerName_eq_iff.mpr ⟨rfl, fun i hi => hagree i (hdeps d hd i hi)⟩
  rw [layerTask, hm, hd, ← layerTask]

theorem lookup_some_mem {κ β : Type} [BEq κ] [LawfulBEq κ] (l : List (κ × β)) (k : κ) (v : β) (h : l.lookup k = some v) :
    (k, v) ∈ l := by
  obtain ⟨l₁, l₂, rfl, _⟩ := List.lookup_eq_some_iff.mp h
  simp

theorem configGraph_lookup (c : Config) (key : LayerKey) (t : Task LayerKey LayerOp)
    (h : (configGraph c).lookup key = some t) : ∃ k, key = layerName c k ∧ t = layerTask c k := by
  obtain ⟨k, _, hk⟩ := List.mem_map.mp (lookup_some_mem _ _ _ h)
  exact ⟨k, (Prod.mk.inj hk).1.symm, (Prod.mk.inj hk).2.symm⟩

theorem configGraph_compatible (h : tokenCovers = true) (c₁ c₂ : Config) :
    Compatible (configGraph c₁) (configGraph c₂) := by
  intro key t₁ t₂ h1 h2
  obtain ⟨k₁, rfl, rfl⟩ := configGraph_lookup c₁ key t₁ h1
  obtain ⟨k₂, hk2, rfl⟩ := configGraph_lookup c₂ _ t₂ h2
  exact layerTask_eq_of_name_eq h c₁ c₂ k₁ k₂ hk2

end Flox.State
