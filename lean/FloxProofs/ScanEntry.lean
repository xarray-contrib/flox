/-
  C10: the entry point `groupby_scan` (shortcuts, reverse for bfill, chunk splitting).
-/
import FloxProofs.ScanChunked
import FloxProofs.ScanBlelloch

namespace Flox
namespace Scan

theorem splitBlocks_length (cs : List Nat) (l : AA) : (splitBlocks cs l).length = cs.length := by
  induction cs generalizing l with
  | nil => rfl
  | cons c r ih => simp [splitBlocks, ih]

theorem splitBlocks_flatten (cs : List Nat) (l : AA) (h : l.length ≤ cs.sum) : (splitBlocks cs l).flatten = l := by
  induction cs generalizing l with
  | nil => simp at h; simp [splitBlocks, h]
  | cons c r ih =>
    simp only [splitBlocks, List.flatten_cons]
    rw [ih (l.drop c) (by simp at h ⊢; omega), List.take_append_drop]

theorem splitBlocks_sub (cs : List Nat) (l : AA) : ∀ b ∈ splitBlocks cs l, ∀ p ∈ b, p ∈ l := by
  induction cs generalizing l with
  | nil => simp [splitBlocks]
  | cons c r ih =>
    intro b hb p hp
    simp only [splitBlocks, List.mem_cons] at hb
    rcases hb with rfl | hb
    · exact List.mem_of_mem_take hp
    · exact List.mem_of_mem_drop (ih _ b hb p hp)

/-- the shortcut `by_.shape[-1] == 1 or by_.shape == grp_shape` -/
def Shortcut (l : AA) : Prop := l.length = 1 ∨ l.length = ngroups l

/-- what the caller must supply for dask input: chunk sizes covering the array and bracketings of the right shape -/
def ChunksOK (chunks : Option (List Nat)) (trees : List BTree) (n : Nat) : Prop :=
  ∀ cs, chunks = some cs → cs.sum = n ∧ TreesOK trees cs.length

theorem chunked_eq (f : Func) (trees : List BTree) (cs : List Nat) (l : AA) (h : Good f l) (hsum : cs.sum = l.length)
    (ht : TreesOK trees cs.length) : scanChunked f trees (splitBlocks cs l) = groupedScan f l := by
  rw [scanChunked_eq f trees _ (fun b hb hf p hp => h hf p (splitBlocks_sub cs l b hb p hp))
    (by rw [splitBlocks_length]; exact ht), splitBlocks_flatten cs l (by omega)]

theorem noInf_reverse {l : AA} (h : NoInf l) : NoInf l.reverse := fun p hp => h p (List.mem_reverse.mp hp)

theorem validTrees_ok (trees : List BTree) (nb : Nat) (hv : validTrees trees = true) (hn : nb ≤ trees.length + 1) :
    TreesOK trees nb := by
  intro i h0 hi
  have hlt : i - 1 < trees.length := by omega
  rw [List.getD_eq_getElem?_getD, List.getElem?_eq_getElem hlt, Option.getD_some,
    (validTrees_iff trees).mp hv (i - 1) hlt, Nat.sub_add_cancel h0]

/-- dask's own bracketings for `nb` blocks (`prefixscan_blelloch` over the `nb - 1` carried states) -/
theorem treesOK_blellochTrees (nb : Nat) : TreesOK (blellochTrees (nb - 1)) nb :=
  validTrees_ok _ nb (blellochTrees_valid _) (by rw [blellochTrees_length]; omega)

theorem spec_of_ne_bfill (f : Func) (hf : f ≠ .bfill) (l : AA) : spec f l = groupedScan f l := by
  cases f
  · rfl
  · rfl
  · exact absurd rfl hf

theorem spec_fill_eq_vals (f : Func) (hf : f ≠ .nancumsum) (l : AA) (h : groupedScan .ffill l = vals l)
    (hr : groupedScan .ffill l.reverse = vals l.reverse) : spec f l = vals l := by
  cases f
  · exact absurd rfl hf
  · exact h
  · show (groupedScan .ffill l.reverse).reverse = vals l
    rw [hr]; simp [vals]

theorem groupbyScan_eq_spec_main (f : Func) (chunks : Option (List Nat)) (trees : List BTree) (l : AA)
    (hs : ¬ Shortcut l) (hg : Good f l) (hneg : f = .nancumsum → ∀ k ∈ keys l, 0 ≤ k)
    (hc : ChunksOK chunks trees l.length) :
    groupbyScan f true chunks trees l = .ok (spec f l) := by
  have hrefuse : ¬ ((!isFill f && (keys l).any (· < 0)) = true) := by
    cases f
    · have := hneg rfl
      simp only [isFill, Bool.not_false, Bool.true_and, List.any_eq_true, decide_eq_true_eq, not_exists, not_and]
      intro k hk; have := this k hk; omega
    all_goals simp [isFill]
  have hpath : ∀ inp : AA, Good f inp → inp.length = l.length →
      (match (generalizing := false) chunks with
        | none => vals (chunkScan f inp)
        | some cs => scanChunked f trees (splitBlocks (if f = .bfill then cs.reverse else cs) inp)) =
        groupedScan f inp := by
    intro inp hgi hlen
    cases chunks with
    | none => exact first_block f inp hgi
    | some cs =>
      obtain ⟨hsum, ht⟩ := hc cs rfl
      refine chunked_eq f trees _ inp hgi ?_ ?_
      · split <;> simp [List.sum_reverse, hsum, hlen]
      · split <;> simpa using ht
  unfold groupbyScan
  rw [if_neg (by simp), if_neg (show ¬ (l.length = 1 ∨ l.length = ngroups l) from hs), if_neg hrefuse]
  by_cases hb : f = .bfill
  · subst hb
    simp only [if_true, revAA] at hpath ⊢
    exact congrArg (fun o => Result.ok o.reverse)
      ((hpath l.reverse (fun h => nomatch h) (by simp)).trans (groupedScan_fill .bfill (by decide) _))
  · simp only [if_neg hb] at hpath ⊢
    rw [spec_of_ne_bfill f hb]
    exact congrArg Result.ok (hpath l hg rfl)

theorem groupedScanFrom_noNaN (f : Func) (hf : f ≠ .nancumsum) (pre l : AA) (h : ∀ p ∈ l, p.2.isNaN = false) :
    groupedScanFrom f pre l = vals l := by
  induction l generalizing pre with
  | nil => rfl
  | cons p r ih =>
    rw [groupedScanFrom_cons, step_fill f hf, if_neg (by simp [h p List.mem_cons_self]),
      ih _ (fun q hq => h q (List.mem_cons_of_mem _ hq))]
    rfl

theorem groupedScanFrom_distinct (f : Func) (pre l : AA) (h : (keys (pre ++ l)).Nodup) :
    groupedScanFrom f pre l = l.map fun p => step f (init f) p.2 := by
  induction l generalizing pre with
  | nil => rfl
  | cons p r ih =>
    have hp : p.1 ∉ keys pre := by
      rw [keys_append, List.nodup_append] at h
      intro hm
      exact h.2.2 _ hm _ (by simp [keys]) rfl
    rw [groupedScanFrom_cons, mem_eq_nil_of_not_mem_keys _ _ hp, scanLast_nil, ih (pre ++ [p]) (by simpa using h)]
    rfl

theorem groupedScan_distinct_fill (f : Func) (hf : f ≠ .nancumsum) (l : AA) (h : (keys l).Nodup) :
    groupedScan f l = vals l := by
  rw [groupedScan, groupedScanFrom_distinct f [] l (by simpa using h)]
  exact List.map_congr_left fun p _ => step_init_fill f hf p.2

theorem groupedScan_distinct_cumsum (l : AA) (h : (keys l).Nodup) :
    groupedScan .nancumsum l = vals (nanToZero l) := by
  rw [groupedScan, groupedScanFrom_distinct .nancumsum [] l (by simpa using h), vals, nanToZero, List.map_map]
  apply List.map_congr_left
  intro p _
  exact Val.add_zero_left _

/-- `ngroups` counts the sorted unique non-negative labels, so `l.length = ngroups l` leaves no room for a negative or a
    repeated label -/
theorem shortcut_nodup (l : AA) (h : Shortcut l) : (keys l).Nodup := by
  rcases h with h | h
  · match l, h with
    | [p], _ => simp [keys]
  · unfold ngroups at h
    have h1 := uniq_length_le ((keys l).filter (· ≥ 0))
    have h2 : ((keys l).filter (· ≥ 0)).length ≤ (keys l).length := List.length_filter_le _ _
    have h3 : (keys l).length = l.length := keys_length l
    have hf : (keys l).filter (· ≥ 0) = keys l := by
      apply List.filter_eq_self.mpr
      have : ((keys l).filter (· ≥ 0)).length = (keys l).length := by omega
      exact List.length_filter_eq_length_iff.mp this
    rw [hf] at h h1
    exact nodup_of_uniq_length _ (by omega)

theorem shortcut_eq_spec (f : Func) (l : AA) (h : Shortcut l) :
    (if f = .nancumsum ∧ true = true then vals (nanToZero l) else vals l) = spec f l := by
  have hn := shortcut_nodup l h
  cases f
  · rw [if_pos ⟨rfl, rfl⟩]
    exact (groupedScan_distinct_cumsum l hn).symm
  all_goals
    rw [if_neg (by simp)]
    have hr : (keys l.reverse).Nodup := by
      have : keys l.reverse = (keys l).reverse := by simp [keys]
      rw [this]; exact (List.reverse_perm (keys l)).nodup_iff.mpr hn
    exact (spec_fill_eq_vals _ (by decide) l (groupedScan_distinct_fill .ffill (by decide) l hn)
      (groupedScan_distinct_fill .ffill (by decide) _ hr)).symm

end Scan
end Flox
