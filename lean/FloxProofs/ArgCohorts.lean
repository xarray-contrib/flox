/-
  Arg-reductions through the cohorts plan (`.cohorts cs`; arg-reductions use `_grouped_combine`, so per cohort the
  blocks are not reindexed (`reindexer = identity`), the tree runs `_grouped_combine`, and `_finalize_results` reindexes
  the combined intermediate to the cohort's labels).
-/
import FloxProofs.ArgFinish
import FloxProofs.Cohorts

namespace Flox.Grp

/-- the per-cohort computation with `_grouped_combine` (no reindexing of the blocks) -/
def cohortOutA (c : Call) (blocks : List Inter) (co : List Nat × List Rat) : Except String (List Key × List Val) :=
  finalizeResults c.R
    (groupedCombine c.R c.eng c.sort (treeReduce (groupedCombine c.R c.eng c.sort) c.splitEvery
      (co.1.map fun b => blocks.getD b default)))
    (some (co.2.map some)) false

theorem runKnown_cohorts_grouped (c : Call) (cs : List (List Nat × List Rat)) (floatData : Bool) (chunks : List Nat)
    (keys : List Key) (vals : List Val) (hcombine : useGroupedCombine c floatData = true) :
    runKnown c (.cohorts cs) floatData chunks keys vals
      = unitsTail c false (fun rs => rs.flatMap (·.1)) (cs.map (cohortOutA c (blockStage c false chunks keys vals))) := by
  simp only [runKnown, hcombine, Bool.not_true, Bool.false_eq_true, if_false, if_true]
  unfold cohortOutA unitsTail gathered
  cases c.sort <;> rfl

def selA (segs : List ASeg) (blks : List Nat) : List ASeg := blks.map fun b => segs.getD b default

theorem selA_aligned (segs : List ASeg) (blks : List Nat) (hal : AlignedA segs) : AlignedA (selA segs blks) :=
  forall_mem_map_getD hal ⟨rfl, rfl⟩ blks

theorem pairs_selA (κ : Key) (segs : List ASeg) (blks : List Nat) (hal : AlignedA segs) (j j' : Val)
    (hs : blks.Pairwise (· < ·)) (hlt : ∀ b ∈ blks, b < segs.length)
    (hcover : ∀ b (hb : b < segs.length), κ ∈ segs[b].keys → b ∈ blks) :
    (⟨catAK (selA segs blks), catAV (selA segs blks), catAI (selA segs blks), j⟩ : ASeg).pairs κ
      = (⟨catAK segs, catAV segs, catAI segs, j'⟩ : ASeg).pairs κ := by
  rw [pairs_catA κ _ (selA_aligned segs blks hal), pairs_catA κ segs hal]
  exact flatten_select segs default blks (fun p => p.pairs κ) hs hlt
    (fun b hb hnb => ASeg.pairs_eq_nil _ κ (fun hmem => hnb (hcover b hb hmem)))

theorem membersK_selA (κ : Key) (segs : List ASeg) (blks : List Nat) (hal : AlignedA segs)
    (hs : blks.Pairwise (· < ·)) (hlt : ∀ b ∈ blks, b < segs.length)
    (hcover : ∀ b (hb : b < segs.length), κ ∈ segs[b].keys → b ∈ blks) :
    membersK κ (catAK (selA segs blks)) (catAV (selA segs blks)) = membersK κ (catAK segs) (catAV segs) := by
  rw [membersK_catA κ _ (selA_aligned segs blks hal), membersK_catA κ segs hal]
  exact flatten_select segs default blks (fun p => membersK κ p.keys p.vals) hs hlt
    (fun b hb hnb => membersK_eq_nil_of_not_mem κ _ _ (fun hmem => hnb (hcover b hb hmem)))

/-- Per cohort, `_finalize_results` applies the count mask to all labels found in the cohort's blocks –
    also labels of other cohorts (of which the cohort's blocks may hold only a part) and the group of dropped elements
    – before reindexing to the cohort's labels.  Without a fill value such a foreign group with fewer than `min_count`
    valid members raises although no label of the cohort needs filling.  The hypothesis excludes the mask-without-fill
    combination altogether. -/
def HCohortMask (R : Resolved) : Prop := R.minCount > 0 → R.userFill ≠ none

instance (R : Resolved) : Decidable (HCohortMask R) := by unfold HCohortMask; infer_instance

abbrev specArgOf (k : Kernel) (R : Resolved) (codes : List Int) (vals : List Val) (g : Int) : Except String Val :=
  specArgSlot R k (Spec.positions g codes) (members g codes vals)

theorem selA_blockStage {k : Kernel} (c : Call) (hf : ArgFits k c.R) (heng : c.eng = .npg) (chunks : List Nat)
    (keys : List Key) (vals : List Val) (hsum : chunks.sum = keys.length) (hlen : keys.length = vals.length)
    (blks : List Nat) (hlt : ∀ b ∈ blks, b < chunks.length) :
    (blks.map fun b => (blockStage c false chunks keys vals).getD b default)
      = (selA (blockSegs 0 chunks keys vals) blks).map (aNode k c.R c.sort) := by
  rw [blockStage_argNodes c hf heng false chunks keys vals hsum hlen, selA, List.map_map]
  refine List.map_congr_left fun b hb => ?_
  have hb' : b < (blockSegs 0 chunks keys vals).length := by rw [blockSegs_length]; exact hlt b hb
  simp only [Function.comp, List.getD_eq_getElem?_getD, List.getElem?_map,
    List.getElem?_eq_getElem hb', Option.map_some, Option.getD_some]

theorem _root_.Flox.CohortsSound.covers_key {chunks : List Nat} {codes : List Int} {n : Nat}
    {cs : List (List Nat × List Rat)}
    (hsound : CohortsSound chunks codes n cs) {co : List Nat × List Rat} (hco : co ∈ cs) {g : Nat}
    (hg : ((g : Nat) : Rat) ∈ co.2) (vals : List Val) (b : Nat)
    (hb : b < (blockSegs 0 chunks (codeKeys codes) vals).length)
    (hmem : (some ((g : Nat) : Rat) : Key) ∈ (blockSegs 0 chunks (codeKeys codes) vals)[b].keys) : b ∈ co.1 := by
  have hb' : b < chunks.length := by rwa [blockSegs_length] at hb
  have hbs : b < (splitBy chunks codes).length := by rwa [splitBy_length]
  apply hsound.blocks_cover co hco g hg b hb'
  have hk := List.getElem_of_eq (blockSegs_keys 0 chunks (codeKeys codes) vals) (i := b) (by simpa using hb)
  simp only [List.getElem_map, splitBy_map] at hk
  rw [hk] at hmem
  obtain ⟨cd, hcd, e⟩ := mem_codeKeys.mp hmem
  rw [natCast_rat_eq] at e
  rw [List.getD_eq_getElem?_getD, List.getElem?_eq_getElem hbs, Rat.intCast_inj.mp e]
  exact hcd

/-- the selection of a cohort sees its labels whole: in the concatenation of the cohort's blocks a label of the
    cohort has the (value, global index) pairs and the members it has in the whole array -/
theorem _root_.Flox.CohortsSound.sel_label {chunks : List Nat} {codes : List Int} {n : Nat}
    {cs : List (List Nat × List Rat)}
    (hsound : CohortsSound chunks codes n cs) {co : List Nat × List Rat} (hco : co ∈ cs) {g : Nat}
    (hg : ((g : Nat) : Rat) ∈ co.2) (vals : List Val) (hlen : codes.length = vals.length)
    (hsum : chunks.sum = codes.length) (j j' : Val) (sel : ASeg)
    (hsel : sel = ⟨catAK (selA (blockSegs 0 chunks (codeKeys codes) vals) co.1),
      catAV (selA (blockSegs 0 chunks (codeKeys codes) vals) co.1),
      catAI (selA (blockSegs 0 chunks (codeKeys codes) vals) co.1), j⟩) :
    sel.pairs (some ((g : Nat) : Rat)) = (wholeSeg codes vals j').pairs (some ((g : Nat) : Rat))
    ∧ membersK (some ((g : Nat) : Rat)) sel.keys sel.vals = members (Int.ofNat g) codes vals := by
  rw [hsel]
  have hklen := codeKeys_length codes
  have hal := blockSegs_aligned 0 chunks (codeKeys codes) vals (by omega) (by omega)
  have hlt : ∀ b ∈ co.1, b < (blockSegs 0 chunks (codeKeys codes) vals).length := fun b hb => by
    rw [blockSegs_length]; exact hsound.blocks_lt co hco b hb
  have hcover := hsound.covers_key hco hg vals
  constructor
  · rw [pairs_selA _ _ co.1 hal _ j' (hsound.blocks_asc co hco) hlt hcover, blockSegs_catAK 0 chunks _ vals (by omega),
      blockSegs_catAV 0 chunks _ vals (by omega), blockSegs_globalIdx, hsum]
  · show membersK _ (catAK _) (catAV _) = _
    rw [membersK_selA _ _ co.1 hal (hsound.blocks_asc co hco) hlt hcover, blockSegs_catAK 0 chunks _ vals (by omega),
      blockSegs_catAV 0 chunks _ vals (by omega), natCast_rat_eq, membersK_codeKeys]

theorem cohortA_result {k : Kernel} {R : Resolved} (hf : ArgFits k R) (c : Call) (hR : c.R = R) (heng : c.eng = .npg)
    (n : Nat) (chunks : List Nat) (codes : List Int) (vals : List Val) (cs : List (List Nat × List Rat))
    (hlen : codes.length = vals.length) (hsum : chunks.sum = codes.length)
    (hsound : CohortsSound chunks codes n cs)
    (H_notallnan : ∀ g : Nat, g < n → HNotAllNaN k R (members (Int.ofNat g) codes vals))
    (H_mask : HCohortMask R)
    (co : List Nat × List Rat) (hco : co ∈ cs) :
    cohortOutA c (blockStage c false chunks (codeKeys codes) vals) co
      = unitOut (fun ℓ => specArgOf k R codes vals ℓ.num) co.2 := by
  subst hR
  have hklen := codeKeys_length codes
  have hal := blockSegs_aligned 0 chunks (codeKeys codes) vals (by omega) (by omega)
  unfold cohortOutA
  rw [selA_blockStage c hf heng chunks _ vals (by omega) (by omega) co.1 (hsound.blocks_lt co hco), heng]
  obtain ⟨j, hj⟩ := tree_argNodes hf c.sort c.splitEvery (selA (blockSegs 0 chunks (codeKeys codes) vals) co.1)
    (by simpa [selA] using hsound.blocks_ne co hco) (selA_aligned _ co.1 hal)
  rw [hj]
  have hal' := catA_aligned _ (selA_aligned _ co.1 hal) j
  obtain ⟨sel, hS⟩ : ∃ sel : ASeg, sel = ⟨catAK (selA (blockSegs 0 chunks (codeKeys codes) vals) co.1),
    catAV (selA (blockSegs 0 chunks (codeKeys codes) vals) co.1),
    catAI (selA (blockSegs 0 chunks (codeKeys codes) vals) co.1), j⟩ := ⟨_, rfl⟩
  rw [← hS] at hal' ⊢
  let a : Key → Val := fun κ => match κ with
    | some r => argPick k sel.junk (sel.pairs (some r))
    | none => Val.zero
  let cntv : Key → Val := fun κ => match κ with
    | some r => countVal (membersK (some r) sel.keys sel.vals)
    | none => Val.zero
  rw [finalize_to_keys c.R _ a cntv (co.2.map some) (nodeGroups_ne_nil c.sort sel.keys)
    ((aNode_finalize hf c.sort sel).trans (nodeCol_eq_map c.sort sel.keys Val.zero _ a rfl (fun _ => rfl)))
    (fun hm => (aNode_count k hm c.sort sel).trans (nodeCol_eq_map c.sort sel.keys Val.zero _ cntv rfl (fun _ => rfl)))
    -- the mask cannot raise
    (fun κ _ _ h => absurd (maskedSlot_error _ _ _ _ h).2.1 (H_mask (maskedSlot_error _ _ _ _ h).2.2.1)),
    mapM_map, unitOut]
  refine congrArg _ (mapM_congr _ _ co.2 fun ℓ hℓ => ?_)
  obtain ⟨g, hg, rfl⟩ := hsound.labels_ok co hco ℓ hℓ
  obtain ⟨hpairs, hmem⟩ := hsound.sel_label hco hℓ vals hlen hsum j sel.junk sel hS
  have hin : (some ((g : Nat) : Rat) : Key) ∈ (aNode k c.R c.sort sel).groups ↔ some ((g : Nat) : Rat) ∈ sel.keys :=
    mem_nodeGroups c.sort sel.keys g
  rw [num_natCast_rat]
  by_cases hm : members (Int.ofNat g) codes vals = []
  · rw [if_neg (fun h => membersK_ne_nil_of_mem _ _ _ (hin.mp h) (Nat.le_of_eq hal'.1) (hmem.trans hm)), specArgOf, hm,
      specArgSlot_nil]
  · rw [if_pos (hin.mpr (Classical.byContradiction fun hk =>
      hm (hmem.symm.trans (membersK_eq_nil_of_not_mem _ _ _ hk))))]
    simp only [a, cntv]
    rw [hpairs, hmem]
    exact argMrSlot_eq_spec k c.R hf codes vals sel.junk hlen _ hm (H_notallnan g hg)

/-- Cohorts, end to end.  `runKnown … (.cohorts cs)` of an arg-reduction (numpy_groupies engine, blueprint `ArgFits`;
    grouped combine, no reindexing of the blocks, finalize reindexes to the cohort's labels) equals the specification
    for every sound cohort structure (`CohortsSound`), every chunking and every `split_every`, under `H_notallnan`,
    `HCohortMask` (no count mask without a fill value) and `HCohortFill` (the `fill_value` argument, which fills the
    labels in no cohort, agrees with the user's fill). -/
theorem cohorts_arg_eq_spec (k : Kernel) (R : Resolved) (c : Call) (n : Nat) (floatData : Bool)
    (chunks : List Nat) (codes : List Int) (vals : List Val) (cs : List (List Nat × List Rat))
    (hR : c.R = R) (heng : c.eng = .npg) (hn : c.ngroups = n) (hf : ArgFits k R)
    (hlen : codes.length = vals.length) (hsum : chunks.sum = codes.length)
    (hsound : CohortsSound chunks codes n cs)
    (H_notallnan : ∀ g : Nat, g < n → HNotAllNaN k R (members (Int.ofNat g) codes vals))
    (H_mask : HCohortMask R)
    (H_fill : HCohortFill c R n cs) :
    runKnown c (.cohorts cs) floatData chunks (codeKeys codes) vals = specResult k R codes vals n := by
  have hcombine : useGroupedCombine c floatData = true := by simp [useGroupedCombine, hR, hf.isArg]
  rw [runKnown_cohorts_grouped c cs floatData chunks _ vals hcombine, specResult_arg_slots k hf.hk]
  have hper : cs.map (cohortOutA c (blockStage c false chunks (codeKeys codes) vals))
      = cs.map fun co => unitOut (fun ℓ => specArgOf k R codes vals ℓ.num) co.2 := by
    apply List.map_congr_left
    intro co hco
    exact cohortA_result hf c hR heng n chunks codes vals cs hlen hsum hsound H_notallnan H_mask co hco
  rw [hper]
  exact cohorts_assemble c R n cs (specArgOf k R codes vals) hn hsound.labels_ok
    (fun g e h => (optToExcept_error _ e h).1)
    (by
      intro g hg hno
      unfold specArgOf
      rw [hsound.members_nil vals g hg hno, specArgSlot_nil])
    H_fill

theorem cohorts_arg_eq_mapreduce (k : Kernel) (R : Resolved) (c : Call) (n : Nat) (floatData : Bool)
    (chunks chunks' : List Nat) (codes : List Int) (vals : List Val) (cs : List (List Nat × List Rat))
    (hR : c.R = R) (heng : c.eng = .npg) (hn : c.ngroups = n) (hf : ArgFits k R) (hcodes : CodesOK codes n)
    (hlen : codes.length = vals.length) (hne : codes ≠ []) (hsum : chunks.sum = codes.length)
    (hchunks' : chunks' ≠ []) (hsum' : chunks'.sum = codes.length)
    (hsound : CohortsSound chunks codes n cs)
    (H_notallnan : ∀ g : Nat, g < n → HNotAllNaN k R (members (Int.ofNat g) codes vals))
    (H_mask : HCohortMask R) (H_dropped : HDropped R codes vals)
    (H_fill : HCohortFill c R n cs) :
    runKnown c (.cohorts cs) floatData chunks (codeKeys codes) vals
      = runKnown c (.mapreduce false) floatData chunks' (codeKeys codes) vals := by
  rw [cohorts_arg_eq_spec k R c n floatData chunks codes vals cs hR heng hn hf hlen hsum hsound H_notallnan H_mask
      H_fill,
    mapreduce_arg_eq_spec k R c n floatData chunks' codes vals hR heng hn hf hcodes hlen hne hchunks' hsum'
      H_notallnan H_dropped]

end Flox.Grp
