/-
  User-defined aggregations are executed by the same machinery (C04).

  For a resolved blueprint `R` of which no algebraic law is assumed (any non-arg chunk kernels, any combine kernels;
  fills arbitrary except `LenFillsZero`; numpy_groupies engine) the map-reduce plan with block-stage reindexing and
  `_simple_combine` computes, in column `j` and slot `g`,

      machineryVal combine[j] se [ blockVal chunk[j] fill[j] (members of g in block b) | b ← blocks ]

  where `machineryVal c se` folds the per-block values with the combine kernel `c` along the tree that
  `split_every = se` induces (`treeVals`: the scalar shadow of `treeReduce`).  Nothing but `chunk`, `combine`,
  `fill_value` of the blueprint enters: `userAggregation_machinery`.
  With the column laws (`Law`, e.g. for clones of built-in columns: `combine_parts`) the tree collapses and the
  result is the single-block result, whatever the chunking and `split_every`: `userAggregation_lawful`.
-/
import FloxProofs.DenseTree
import FloxModel.UserAgg

namespace Flox

def treeVals (c : Kernel) (se : Nat) (xs : List Val) : List Val :=
  (List.range (ceilLog (Nat.max se 2) xs.length - 1)).foldl
    (fun cur _ => (partitionAll (Nat.max se 2) cur).map (combineVal c)) xs

def machineryVal (c : Kernel) (se : Nat) (xs : List Val) : Val := combineVal c (treeVals c se xs)

def slotOf (x : Inter) (j gi : Nat) : Val := (colAt x j).getD gi Val.nan

theorem simpleCombine_dense (R : Resolved) (n : Nat) (xs : List Inter) (hne : xs ≠ [])
    (hg : ∀ x ∈ xs, x.groups = rangeKeys n) :
    simpleCombine R true xs =
      { groups := rangeKeys n,
        cols := R.combine.mapIdx fun j c =>
          (List.range n).map fun gi => combineVal c (xs.map fun x => (colAt x j).getD gi Val.nan) } := by
  rw [simpleCombine_common R (rangeKeys n) xs hne hg]
  simp [rangeKeys]

theorem simpleCombine_groups (R : Resolved) (n : Nat) (xs : List Inter) (hne : xs ≠ [])
    (hg : ∀ x ∈ xs, x.groups = rangeKeys n) : (simpleCombine R true xs).groups = rangeKeys n := by
  rw [simpleCombine_dense R n xs hne hg]

theorem simpleCombine_slot (R : Resolved) (n : Nat) (xs : List Inter) (hne : xs ≠ [])
    (hg : ∀ x ∈ xs, x.groups = rangeKeys n) (j gi : Nat) (hj : j < R.combine.length) (hgi : gi < n) :
    slotOf (simpleCombine R true xs) j gi = combineVal R.combine[j] (xs.map fun x => slotOf x j gi) := by
  rw [simpleCombine_dense R n xs hne hg]
  simp [slotOf, colAt, List.getElem?_eq_getElem hj, hgi]

theorem round_slots (R : Resolved) (n k : Nat) (xs : List Inter) (hg : ∀ x ∈ xs, x.groups = rangeKeys n)
    (j gi : Nat) (hj : j < R.combine.length) (hgi : gi < n) :
    ((partitionAll k xs).map (simpleCombine R true)).map (fun x => slotOf x j gi)
      = (partitionAll k (xs.map fun x => slotOf x j gi)).map (combineVal R.combine[j]) := by
  rw [partitionAll_map, List.map_map, List.map_map]
  apply List.map_congr_left
  intro grp hgrp
  simp only [Function.comp]
  exact simpleCombine_slot R n grp (partitionAll_mem_ne_nil k xs grp hgrp)
    (fun x hx => hg x (partitionAll_mem_sub k xs grp hgrp x hx)) j gi hj hgi

theorem round_groups (R : Resolved) (n k : Nat) (xs : List Inter) (hg : ∀ x ∈ xs, x.groups = rangeKeys n) :
    ∀ y ∈ (partitionAll k xs).map (simpleCombine R true), y.groups = rangeKeys n := by
  intro y hy
  obtain ⟨grp, hgrp, rfl⟩ := List.mem_map.mp hy
  exact simpleCombine_groups R n grp (partitionAll_mem_ne_nil k xs grp hgrp)
    (fun x hx => hg x (partitionAll_mem_sub k xs grp hgrp x hx))

theorem rounds_slots (R : Resolved) (n k : Nat) (l : List Nat) (xs : List Inter) (hne : xs ≠ [])
    (hg : ∀ x ∈ xs, x.groups = rangeKeys n) :
    let ys := l.foldl (fun cur _ => (partitionAll k cur).map (simpleCombine R true)) xs
    ys ≠ [] ∧ (∀ y ∈ ys, y.groups = rangeKeys n) ∧
      ∀ j gi (hj : j < R.combine.length), gi < n →
        ys.map (fun x => slotOf x j gi)
          = l.foldl (fun cur _ => (partitionAll k cur).map (combineVal R.combine[j])) (xs.map fun x => slotOf x j gi) := by
  induction l generalizing xs with
  | nil => exact ⟨hne, hg, fun _ _ _ _ => rfl⟩
  | cons _ l ih =>
    simp only [List.foldl_cons]
    obtain ⟨h1, h2, h3⟩ := ih ((partitionAll k xs).map (simpleCombine R true))
      (by simpa using partitionAll_ne_nil k xs hne) (round_groups R n k xs hg)
    refine ⟨h1, h2, ?_⟩
    intro j gi hj hgi
    rw [h3 j gi hj hgi, round_slots R n k xs hg j gi hj hgi]

theorem machinery_inter (R : Resolved) (n se : Nat) (blocks : List Inter) (hne : blocks ≠ [])
    (hg : ∀ b ∈ blocks, b.groups = rangeKeys n) :
    simpleCombine R true (treeReduce (simpleCombine R true) se blocks)
      = { groups := rangeKeys n,
          cols := R.combine.mapIdx fun j c =>
            (List.range n).map fun gi => machineryVal c se (blocks.map fun b => slotOf b j gi) } := by
  unfold treeReduce
  obtain ⟨h1, h2, h3⟩ := rounds_slots R n (Nat.max se 2)
    (List.range (ceilLog (Nat.max se 2) blocks.length - 1)) blocks hne hg
  rw [simpleCombine_dense R n _ h1 h2]
  refine congrArg (Inter.mk _) ?_
  apply List.ext_getElem
  · simp
  · intro j hj1 _
    have hj : j < R.combine.length := by simpa using hj1
    simp only [List.getElem_mapIdx]
    apply List.map_congr_left
    intro gi hgi
    have hgi' : gi < n := List.mem_range.mp hgi
    have := h3 j gi hj hgi'
    simp only [slotOf] at this
    simp only [machineryVal, treeVals, slotOf, List.length_map]
    rw [← this]

theorem slotOf_denseNode (R : Resolved) (n : Nat) (p : List Int × List Val) (j gi : Nat)
    (hj : j < R.chunk.length) (hf : R.chunk.length = R.interFills.length) (hgi : gi < n) :
    slotOf (denseNode R n p) j gi
      = blockVal R.chunk[j] (R.interFills[j]'(by omega)) (members (Int.ofNat gi) p.1 p.2) := by
  have h := colAt_fcols R.chunk R.interFills (rangeKeys n) (List.range n)
    (fun g : Nat => members (Int.ofNat g) p.1 p.2) j gi hj hf (by simpa using hgi)
  rwa [List.getElem_range] at h

/-- the fills of the `nanlen` / `nansum_of_squares` chunk kernels are 0 (numpy_groupies returns the *fill* for an
    all-NaN group there, which coincides with the kernels' value 0 only then) -/
abbrev LenFillsZero (R : Resolved) : Prop :=
  ∀ p ∈ R.chunk.zip R.interFills, (p.1 = .nanlen ∨ p.1 = .nansumsq) → p.2 = Val.zero

theorem userAggregation_machinery (c : Call) (n : Nat) (chunks : List Nat) (codes : List Int) (vals : List Val)
    (se : Nat) (heng : c.eng = .npg) (hn : c.ngroups = n) (harg : c.R.isArg = false)
    (hc : c.R.chunk.length = c.R.combine.length) (hf : c.R.chunk.length = c.R.interFills.length)
    (hnoarg : ∀ k ∈ c.R.chunk, isArgKernel k = false) (hz : LenFillsZero c.R)
    (hchunks : chunks ≠ []) (hsum : chunks.sum = codes.length)
    (hcodes : ∀ c ∈ codes, -1 ≤ c ∧ c < (n : Int)) :
    simpleCombine c.R true (treeReduce (simpleCombine c.R true) se
        (blockStage c true chunks (codes.map fun (i : Int) => (some (i : Rat) : Key)) vals))
      = { groups := rangeKeys n,
          cols := c.R.combine.mapIdx fun j cmb =>
            (List.range n).map fun gi =>
              machineryVal cmb se ((segsOf chunks codes vals).map fun p =>
                blockVal (c.R.chunk.getD j .sum) (c.R.interFills.getD j Val.nan) (members (Int.ofNat gi) p.1 p.2)) } := by
  rw [blockStage_dense c n chunks codes vals heng hn harg hnoarg hz (by omega) hcodes]
  rw [machinery_inter c.R n se _ (by simpa using segsOf_ne_nil chunks codes vals hchunks)
    (by intro b hb; obtain ⟨p, _, rfl⟩ := List.mem_map.mp hb; rfl)]
  refine congrArg (Inter.mk _) ?_
  apply List.ext_getElem
  · simp
  · intro j hj1 _
    have hj : j < c.R.combine.length := by simpa using hj1
    simp only [List.getElem_mapIdx]
    apply List.map_congr_left
    intro gi hgi
    have hgi' : gi < n := List.mem_range.mp hgi
    refine congrArg (machineryVal _ se) ?_
    rw [List.map_map]
    apply List.map_congr_left
    intro p _
    simp only [Function.comp]
    rw [slotOf_denseNode c.R n p j gi (by omega) hf hgi']
    simp [List.getD_eq_getElem?_getD, hc ▸ hj, (hf ▸ hc ▸ hj : j < c.R.interFills.length)]

theorem userAggregation_lawful (c : Call) (n : Nat) (chunks : List Nat) (codes : List Int) (vals : List Val)
    (se : Nat) (sort : Bool) (heng : c.eng = .npg) (hn : c.ngroups = n) (harg : c.R.isArg = false)
    (hc : c.R.chunk.length = c.R.combine.length) (hf : c.R.chunk.length = c.R.interFills.length)
    (hlaw : ∀ j (hj : j < c.R.chunk.length),
      Law c.R.chunk[j] (c.R.combine[j]'(by omega)) (c.R.interFills[j]'(by omega)))
    (hnoarg : ∀ k ∈ c.R.chunk, isArgKernel k = false) (hz : LenFillsZero c.R)
    (hchunks : chunks ≠ []) (hsum : chunks.sum = codes.length) (hlen : codes.length = vals.length)
    (hcodes : ∀ c ∈ codes, -1 ≤ c ∧ c < (n : Int)) :
    simpleCombine c.R true (treeReduce (simpleCombine c.R true) se
        (blockStage c true chunks (codes.map fun (i : Int) => (some (i : Rat) : Key)) vals))
      = chunkReduce .npg c.R.chunk c.R.interFills (codes.map fun (i : Int) => (some (i : Rat) : Key)) vals
          (some n) sort :=
  mapreduce_dense_eq_single_block c.R c n chunks codes vals se sort rfl heng hn harg ⟨hc, hf, hlaw⟩ hnoarg hz hchunks
    hsum hlen hcodes

end Flox
