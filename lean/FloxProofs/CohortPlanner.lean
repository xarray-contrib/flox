/-
  The cohort planner model (`FloxModel/Cohorts.lean`), for all inputs and all thresholds.  What the planner returns is
  judged against the incidence table (`TblSound`); `plan` is unfolded once, in `plan_exit`, and what is proved about it is
  read off the list of its exits.
-/
import FloxModel.Cohorts
import FloxProofs.InsertionSort

namespace Flox
namespace Cohorts

theorem subset_of_nodup_subset_length {α} {F L : List α} (hF : F.Nodup) (hsub : F ⊆ L)
    (hlen : L.length ≤ F.length) : L ⊆ F := by
  intro a ha
  apply Classical.byContradiction
  intro hna
  have := (List.nodup_cons.mpr ⟨hna, hF⟩).length_le_of_subset (List.cons_subset.mpr ⟨ha, hsub⟩)
  rw [List.length_cons] at this
  omega

theorem flatMap_filter_perm {α κ} [BEq κ] [LawfulBEq κ] (f : α → κ) :
    ∀ (K : List κ) (l : List α), K.Nodup → (∀ x ∈ l, f x ∈ K) → (K.flatMap fun k => l.filter (f · == k)).Perm l
  | [], l, _, h => by
    cases l with
    | nil => exact List.Perm.nil
    | cons x _ => exact absurd (h x List.mem_cons_self) List.not_mem_nil
  | k :: K, l, hK, h => by
    rw [List.nodup_cons] at hK
    have hrest : ∀ k' ∈ K, l.filter (f · == k') = (l.filter fun x => !(f x == k)).filter (f · == k') := by
      intro k' hk'
      rw [List.filter_filter]
      apply List.filter_congr
      intro x _
      by_cases hx : f x = k'
      · have : k' ≠ k := fun e => hK.1 (e ▸ hk')
        simp [hx, this]
      · simp [hx]
    rw [List.flatMap_cons, List.flatMap_def, List.map_congr_left hrest, ← List.flatMap_def]
    refine (List.Perm.append_left _ (flatMap_filter_perm f K _ hK.2 ?_)).trans (List.filter_append_perm _ l)
    intro x hx
    obtain ⟨hxl, hxk⟩ := List.mem_filter.mp hx
    exact (List.mem_cons.mp (h x hxl)).resolve_left (by simpa using hxk)

theorem insertStable_eq {α : Type} (le : α → α → Bool) (a : α) : ∀ l, insertStable le a l = insertBy (le · ·) a l
  | [] => rfl
  | x :: xs => by rw [insertStable, insertBy_cons, insertStable_eq le a xs]

theorem stableSort_eq_isort {α : Type} (le : α → α → Bool) : ∀ l, stableSort le l = isort (le · ·) l
  | [] => rfl
  | a :: l => by rw [stableSort, isort, stableSort_eq_isort le l, insertStable_eq]

theorem stableSort_perm {α : Type} (le : α → α → Bool) (l : List α) : (stableSort le l).Perm l :=
  stableSort_eq_isort le l ▸ isort_perm _ l

theorem mem_stableSort {α : Type} {le : α → α → Bool} {l : List α} {a : α} : a ∈ stableSort le l ↔ a ∈ l :=
  (stableSort_perm le l).mem_iff

theorem mem_sortLabels {l : List Nat} {a : Nat} : a ∈ sortLabels l ↔ a ∈ l := mem_stableSort

theorem sortLabels_perm (l : List Nat) : (sortLabels l).Perm l := stableSort_perm _ l

theorem sortLabels_sorted (l : List Nat) : (sortLabels l).Pairwise (· ≤ ·) := by
  rw [sortLabels, stableSort_eq_isort]
  exact (isort_sorted (TotalPreorder.comap ⟨Nat.le_total, Nat.le_trans⟩ id fun _ _ => decide_eq_true_iff) l).imp
    of_decide_eq_true

theorem asc_of_sorted_nodup {l : List Nat} (h : l.Pairwise (· ≤ ·)) (hnd : l.Nodup) : l.Pairwise (· < ·) :=
  List.Pairwise.imp₂ (fun _ _ => Nat.lt_of_le_of_ne) h hnd

theorem mem_blocksOf {elems : List Elem} {nchunks l b : Nat} :
    b ∈ blocksOf elems nchunks l ↔ b < nchunks ∧ ((l : Int), b) ∈ elems := by
  simp [blocksOf, holds, List.mem_filter, List.mem_range]

theorem mem_tblOf {elems : List Elem} {nchunks nlabels : Nat} {e : Entry} :
    e ∈ tblOf elems nchunks nlabels ↔ e.1 < nlabels ∧ e.2 = blocksOf elems nchunks e.1 ∧ e.2 ≠ [] := by
  obtain ⟨l, bs⟩ := e
  simp only [tblOf, List.mem_filter, List.mem_map, List.mem_range, Prod.mk.injEq, Bool.not_eq_true',
    List.isEmpty_eq_false_iff]
  constructor
  · rintro ⟨⟨l', hl', rfl, rfl⟩, hne⟩
    exact ⟨hl', rfl, hne⟩
  · rintro ⟨hl, rfl, hne⟩
    exact ⟨⟨l, hl, rfl, rfl⟩, hne⟩

theorem tblOf_asc (elems : List Elem) (nchunks nlabels : Nat) :
    ((tblOf elems nchunks nlabels).map (·.1)).Pairwise (· < ·) := by
  have h : List.Sublist ((tblOf elems nchunks nlabels).map (·.1))
      (((List.range nlabels).map fun l => (l, blocksOf elems nchunks l)).map (·.1)) :=
    List.Sublist.map _ List.filter_sublist
  simp only [List.map_map, Function.comp_def, List.map_id'] at h
  exact List.pairwise_lt_range.sublist h

theorem tblOf_nodup (elems : List Elem) (nchunks nlabels : Nat) :
    ((tblOf elems nchunks nlabels).map (·.1)).Nodup :=
  (tblOf_asc elems nchunks nlabels).imp Nat.ne_of_lt

theorem tblOf_blocks_lt {elems : List Elem} {nchunks nlabels : Nat} {e : Entry}
    (he : e ∈ tblOf elems nchunks nlabels) : ∀ b ∈ e.2, b < nchunks := by
  intro b hb
  rw [(mem_tblOf.mp he).2.1] at hb
  exact (mem_blocksOf.mp hb).1

theorem mem_tblOf_labels {elems : List Elem} {nchunks nlabels l : Nat} :
    l ∈ (tblOf elems nchunks nlabels).map (·.1) ↔ l < nlabels ∧ ∃ b, b < nchunks ∧ ((l : Int), b) ∈ elems := by
  constructor
  · intro h
    obtain ⟨e, he, rfl⟩ := List.mem_map.mp h
    obtain ⟨hl, hbs, hne⟩ := mem_tblOf.mp he
    obtain ⟨b, hb⟩ := List.exists_mem_of_ne_nil _ hne
    exact ⟨hl, b, mem_blocksOf.mp (hbs ▸ hb)⟩
  · rintro ⟨hl, b, hb⟩
    exact List.mem_map.mpr ⟨(l, _), mem_tblOf.mpr ⟨hl, rfl, List.ne_nil_of_mem (mem_blocksOf.mpr hb)⟩, rfl⟩

theorem mem_filter_map_fst {tbl : List Entry} (hnd : (tbl.map (·.1)).Nodup) (p : Entry → Bool) {j : Entry} (hj : j ∈ tbl) :
    j.1 ∈ (tbl.filter p).map (·.1) ↔ p j = true := by
  constructor
  · intro h
    obtain ⟨j', hj', h1⟩ := List.mem_map.mp h
    obtain ⟨hm, hp⟩ := List.mem_filter.mp hj'
    exact inj_of_nodup_map hnd hm hj h1 ▸ hp
  · intro hp
    exact List.mem_map.mpr ⟨j, List.mem_filter.mpr ⟨hj, hp⟩, rfl⟩

theorem holdsTbl_iff {tbl : List Entry} {l b : Nat} : holdsTbl tbl l b = true ↔ ∃ bs, (l, bs) ∈ tbl ∧ b ∈ bs := by
  simp only [holdsTbl, List.any_eq_true, Bool.and_eq_true, beq_iff_eq, List.contains_iff_mem]
  constructor
  · rintro ⟨⟨l', bs⟩, he, rfl, hb⟩
    exact ⟨bs, he, hb⟩
  · rintro ⟨bs, he, hb⟩
    exact ⟨(l, bs), he, rfl, hb⟩

theorem holdsTbl_of_mem {tbl : List Entry} (hnd : (tbl.map (·.1)).Nodup) {e : Entry} (he : e ∈ tbl) {b : Nat} :
    holdsTbl tbl e.1 b = true ↔ b ∈ e.2 := by
  rw [holdsTbl_iff]
  exact ⟨fun ⟨_, hbs, hb⟩ => congrArg Prod.snd (inj_of_nodup_map hnd hbs he rfl) ▸ hb, fun hb => ⟨e.2, he, hb⟩⟩

theorem holdsTbl_tblOf {elems : List Elem} {nchunks nlabels l b : Nat} :
    holdsTbl (tblOf elems nchunks nlabels) l b = true ↔ l < nlabels ∧ b < nchunks ∧ ((l : Int), b) ∈ elems := by
  rw [holdsTbl_iff]
  constructor
  · rintro ⟨bs, he, hb⟩
    have hbs : bs = blocksOf elems nchunks l := (mem_tblOf.mp he).2.1
    exact ⟨(mem_tblOf.mp he).1, mem_blocksOf.mp (hbs ▸ hb)⟩
  · rintro ⟨hl, hb⟩
    have hb := mem_blocksOf.mpr hb
    exact ⟨_, mem_tblOf.mpr ⟨hl, rfl, List.ne_nil_of_mem hb⟩, hb⟩

theorem mem_dedupKeys : ∀ {ks : List (List Nat)} {x : List Nat}, x ∈ dedupKeys ks ↔ x ∈ ks
  | [], x => by simp [dedupKeys]
  | k :: ks, x => by
    simp only [dedupKeys, List.mem_cons, List.mem_filter, mem_dedupKeys (ks := ks)]
    by_cases h : x = k
    · simp [h]
    · simp [h]

theorem nodup_dedupKeys : ∀ (ks : List (List Nat)), (dedupKeys ks).Nodup
  | [] => by simp [dedupKeys]
  | k :: ks => by
    simp only [dedupKeys, List.nodup_cons]
    refine ⟨?_, (nodup_dedupKeys ks).sublist List.filter_sublist⟩
    simp [List.mem_filter]

theorem mem_exactCohorts {tbl : List Entry} {c : Cohort} :
    c ∈ exactCohorts tbl ↔ ∃ f ∈ tbl, c = (f.2, (tbl.filter (·.2 == f.2)).map (·.1)) := by
  simp only [exactCohorts, List.mem_map, mem_dedupKeys]
  constructor
  · rintro ⟨_, ⟨f, hf, rfl⟩, rfl⟩
    exact ⟨f, hf, rfl⟩
  · rintro ⟨f, hf, rfl⟩
    exact ⟨_, ⟨f, hf, rfl⟩, rfl⟩

theorem exactCohorts_labels (tbl : List Entry) : ((exactCohorts tbl).flatMap (·.2)).Perm (tbl.map (·.1)) := by
  have h := flatMap_filter_perm (·.2) _ tbl (nodup_dedupKeys (tbl.map (·.2)))
    fun e he => mem_dedupKeys.mpr (List.mem_map_of_mem he)
  simp only [exactCohorts, List.flatMap_map]
  rw [← List.map_flatMap]
  exact h.map _

structure TblSound (tbl : List Entry) (cs : List Cohort) : Prop where
  labels : (cs.flatMap (·.2)).Perm (tbl.map (·.1))
  blocks : ∀ c ∈ cs, ∀ b, b ∈ c.1 ↔ ∃ l ∈ c.2, holdsTbl tbl l b = true
  asc : ∀ c ∈ cs, c.2.Pairwise (· < ·)

theorem exactCohorts_sound {tbl : List Entry} (hasc : (tbl.map (·.1)).Pairwise (· < ·)) : TblSound tbl (exactCohorts tbl) := by
  have hnd : (tbl.map (·.1)).Nodup := hasc.imp Nat.ne_of_lt
  refine ⟨exactCohorts_labels tbl, ?_, ?_⟩
  · intro c hc b
    obtain ⟨f, hf, rfl⟩ := mem_exactCohorts.mp hc
    constructor
    · intro hb
      exact ⟨f.1, (mem_filter_map_fst hnd _ hf).mpr (by simp), (holdsTbl_of_mem hnd hf).mpr hb⟩
    · rintro ⟨l, hl, hb⟩
      obtain ⟨e, he, rfl⟩ := List.mem_map.mp hl
      obtain ⟨he, hef⟩ := List.mem_filter.mp he
      rw [holdsTbl_of_mem hnd he, beq_iff_eq.mp hef] at hb
      exact hb
  · intro c hc
    obtain ⟨f, _, rfl⟩ := mem_exactCohorts.mp hc
    exact hasc.sublist (List.Sublist.map _ List.filter_sublist)

theorem mem_unionBlocks {tbl : List Entry} {nchunks : Nat} {ls : List Nat} {b : Nat} :
    b ∈ unionBlocks tbl nchunks ls ↔ b < nchunks ∧ ∃ l ∈ ls, holdsTbl tbl l b = true := by
  simp only [unionBlocks, List.mem_filter, List.mem_range, List.any_eq_true]

theorem mem_unionBlocks_append {tbl : List Entry} {nchunks : Nat} {a v : List Nat} {b : Nat} :
    b ∈ unionBlocks tbl nchunks (a ++ v) ↔ b ∈ unionBlocks tbl nchunks a ∨ b ∈ unionBlocks tbl nchunks v := by
  simp only [mem_unionBlocks, List.mem_append, or_and_right, exists_or, and_or_left]

theorem mem_unionBlocks_sort {tbl : List Entry} {nchunks : Nat} {l : List Nat} {b : Nat} :
    b ∈ unionBlocks tbl nchunks (sortLabels l) ↔ b ∈ unionBlocks tbl nchunks l := by
  simp only [mem_unionBlocks, mem_sortLabels]

theorem dictInsert_labels : ∀ (d : List Cohort) (k v : List Nat),
    ((dictInsert d k v).flatMap (·.2)).Perm (d.flatMap (·.2) ++ v)
  | [], k, v => by simp [dictInsert]
  | c0 :: d, k, v => by
    simp only [dictInsert]
    split
    · simp only [List.flatMap_cons]
      refine ((sortLabels_perm _).append_right _).trans ?_
      rw [List.append_assoc, List.append_assoc]
      exact List.perm_append_comm.append_left _
    · simp only [List.flatMap_cons, List.append_assoc]
      exact (dictInsert_labels d k v).append_left _

theorem dictInsert_forall {P : Cohort → Prop} : ∀ {d : List Cohort} {k v : List Nat}, (∀ c ∈ d, P c) → P (k, v) →
    (∀ c ∈ d, c.1 = k → P (k, sortLabels (c.2 ++ v))) → ∀ c ∈ dictInsert d k v, P c
  | [], k, v, _, hnew, _ => by simpa [dictInsert] using hnew
  | c0 :: d, k, v, hd, hnew, hext => by
    rw [List.forall_mem_cons] at hd hext
    simp only [dictInsert]
    split
    · rename_i heq
      exact List.forall_mem_cons.mpr ⟨hext.1 (beq_iff_eq.mp heq), hd.2⟩
    · exact List.forall_mem_cons.mpr ⟨hd.1, dictInsert_forall hd.2 hnew hext.2⟩

/-- the key under which the dict holds a merged cohort is the union of its labels' blocks -/
def KeyOK (tbl : List Entry) (nchunks : Nat) (c : Cohort) : Prop :=
  ∀ b, b ∈ c.1 ↔ b ∈ unionBlocks tbl nchunks c.2

/-- `K` holds all or none of the table labels that share a block list (the members of one exact cohort) -/
def Mate (tbl : List Entry) (K : List Nat) : Prop :=
  ∀ j ∈ tbl, ∀ j' ∈ tbl, j.2 = j'.2 → (j.1 ∈ K ↔ j'.1 ∈ K)

/-- what the merge loop keeps true.  `labels` gives the first `assert`; `mate` is what gets every label merged
    (`all_merged`); the rest is what `merged_sound` reads off. -/
structure LoopInv (tbl : List Entry) (nchunks : Nat) (s : MState) : Prop where
  labels : (s.dict.flatMap (·.2)).Perm s.mergedKeys
  nodup : s.mergedKeys.Nodup
  sub : ∀ x ∈ s.mergedKeys, x ∈ tbl.map (·.1)
  mate : Mate tbl s.mergedKeys
  key : ∀ c ∈ s.dict, KeyOK tbl nchunks c
  sorted : ∀ c ∈ s.dict, c.2.Pairwise (· ≤ ·)

theorem mergeStep_inv {tbl : List Entry} {nchunks : Nat} {s : MState} {r : Nat × List Nat}
    (hasc : (tbl.map (·.1)).Pairwise (· < ·)) (hs : LoopInv tbl nchunks s) (hsub : r.2.Sublist (tbl.map (·.1)))
    (hmate : Mate tbl r.2) :
    LoopInv tbl nchunks (mergeStep tbl nchunks s r) ∧
      (∀ x ∈ s.mergedKeys, x ∈ (mergeStep tbl nchunks s r).mergedKeys) ∧
      (r.1 ∈ r.2 → r.1 ∈ (mergeStep tbl nchunks s r).mergedKeys) := by
  unfold mergeStep
  split
  · rename_i h1
    exact ⟨hs, fun _ hx => hx, fun _ => by simpa using h1⟩
  · rename_i h1
    dsimp only
    have hfresh : ∀ x, x ∈ r.2.filter (fun j => !s.mergedKeys.contains j) ↔ x ∈ r.2 ∧ x ∉ s.mergedKeys := by
      intro x
      simp [List.mem_filter]
    have hsl : (r.2.filter fun j => !s.mergedKeys.contains j).Sublist r.2 := List.filter_sublist
    generalize r.2.filter (fun j => !s.mergedKeys.contains j) = cohort at hfresh hsl
    have hself : r.1 ∈ r.2 → r.1 ∈ cohort := fun h => (hfresh _).mpr ⟨h, by simpa using h1⟩
    split
    · rename_i h2
      rw [List.isEmpty_iff.mp h2] at hself
      exact ⟨hs, fun _ hx => hx, fun h => nomatch hself h⟩
    · refine ⟨⟨?_, ?_, ?_, ?_, ?_, ?_⟩, fun x hx => List.mem_append_left _ hx, fun h => List.mem_append_right _ (hself h)⟩
      · exact (dictInsert_labels _ _ _).trans (hs.labels.append_right _)
      · exact List.nodup_append.mpr ⟨hs.nodup, ((hasc.sublist hsub).imp Nat.ne_of_lt).sublist hsl,
          fun a ha b hb hab => ((hfresh b).mp hb).2 (hab ▸ ha)⟩
      · intro x hx
        rcases List.mem_append.mp hx with hx | hx
        · exact hs.sub x hx
        · exact hsub.subset (hsl.subset hx)
      · intro j hj j' hj' hjj'
        simp only [List.mem_append, hfresh]
        rw [hs.mate j hj j' hj' hjj', hmate j hj j' hj' hjj']
      · refine dictInsert_forall hs.key (fun b => Iff.rfl) ?_
        intro c hc hk b
        show b ∈ unionBlocks tbl nchunks cohort ↔ b ∈ unionBlocks tbl nchunks (sortLabels (c.2 ++ cohort))
        rw [mem_unionBlocks_sort, mem_unionBlocks_append, ← hs.key c hc b, hk, or_self]
      · exact dictInsert_forall hs.sorted (((hasc.sublist hsub).sublist hsl).imp Nat.le_of_lt)
          fun _ _ _ => sortLabels_sorted _

theorem foldl_inv {tbl : List Entry} {nchunks : Nat} (hasc : (tbl.map (·.1)).Pairwise (· < ·)) :
    ∀ (rs : List (Nat × List Nat)) (s : MState), LoopInv tbl nchunks s →
    (∀ r ∈ rs, r.2.Sublist (tbl.map (·.1)) ∧ Mate tbl r.2) →
    LoopInv tbl nchunks (rs.foldl (mergeStep tbl nchunks) s) ∧
      (∀ x ∈ s.mergedKeys, x ∈ (rs.foldl (mergeStep tbl nchunks) s).mergedKeys) ∧
      ∀ r ∈ rs, r.1 ∈ r.2 → r.1 ∈ (rs.foldl (mergeStep tbl nchunks) s).mergedKeys
  | [], _, hs, _ => ⟨hs, fun _ hx => hx, nofun⟩
  | r :: rs, s, hs, hr => by
    rw [List.forall_mem_cons] at hr
    obtain ⟨h1, h2, h3⟩ := mergeStep_inv hasc hs hr.1.1 hr.1.2
    obtain ⟨i1, i2, i3⟩ := foldl_inv hasc rs _ h1 hr.2
    exact ⟨i1, fun x hx => i2 x (h2 x hx), List.forall_mem_cons.mpr ⟨fun h => i2 _ (h3 h), i3⟩⟩

theorem row_sublist (T : Thresholds) (tbl : List Entry) (e : Entry) : List.Sublist (row T tbl e) (tbl.map (·.1)) := by
  unfold row
  split
  · exact List.Sublist.map _ List.filter_sublist
  · exact List.nil_sublist _

theorem mem_row (T : Thresholds) {tbl : List Entry} (hnd : (tbl.map (·.1)).Nodup) (e : Entry) {j : Entry} (hj : j ∈ tbl) :
    j.1 ∈ row T tbl e ↔ isFirst tbl e = true ∧ 0 < interCount e.2 j.2 ∧
      T.close (interCount e.2 j.2) j.2.length = true := by
  unfold row
  split
  · rename_i h
    rw [mem_filter_map_fst hnd _ hj, Bool.and_eq_true, decide_eq_true_eq, and_iff_right h]
  · rename_i h
    exact ⟨nofun, fun h' => absurd h'.1 h⟩

theorem row_mate (T : Thresholds) {tbl : List Entry} (hnd : (tbl.map (·.1)).Nodup) (e : Entry) : Mate tbl (row T tbl e) := by
  intro j hj j' hj' h
  rw [mem_row T hnd e hj, mem_row T hnd e hj', h]

theorem mem_visitOrder {T : Thresholds} {tbl : List Entry} {r : Nat × List Nat} :
    r ∈ visitOrder T tbl ↔ (∃ e ∈ tbl, (e.1, row T tbl e) = r) ∧ 0 < r.2.length := by
  simp only [visitOrder, List.mem_filter, List.mem_reverse, mem_stableSort, List.mem_map, decide_eq_true_eq]

theorem mergeLoop_inv (T : Thresholds) {tbl : List Entry} (hasc : (tbl.map (·.1)).Pairwise (· < ·)) (nchunks : Nat) :
    LoopInv tbl nchunks (mergeLoop T tbl nchunks) ∧
      ∀ e ∈ tbl, e.1 ∈ row T tbl e → e.1 ∈ (mergeLoop T tbl nchunks).mergedKeys := by
  have hinit : LoopInv tbl nchunks { mergedKeys := [], dict := [] } :=
    ⟨List.Perm.nil, List.nodup_nil, nofun, fun _ _ _ _ _ => ⟨nofun, nofun⟩, nofun, nofun⟩
  obtain ⟨h1, _, h3⟩ := foldl_inv hasc (visitOrder T tbl) _ hinit (by
    intro r hr
    obtain ⟨⟨e, _, rfl⟩, _⟩ := mem_visitOrder.mp hr
    exact ⟨row_sublist T tbl e, row_mate T (hasc.imp Nat.ne_of_lt) e⟩)
  exact ⟨h1, fun e he h => h3 (e.1, row T tbl e) (mem_visitOrder.mpr ⟨⟨e, he, rfl⟩, List.length_pos_of_mem h⟩) h⟩

theorem sortByFirst_perm (d : List Cohort) : (sortByFirst d).Perm d := stableSort_perm _ _

theorem LoopInv.labels_perm {tbl : List Entry} {nchunks : Nat} {s : MState} (inv : LoopInv tbl nchunks s)
    (hnd : (tbl.map (·.1)).Nodup) (hall : ∀ e ∈ tbl, e.1 ∈ s.mergedKeys) :
    (s.dict.flatMap (·.2)).Perm (tbl.map (·.1)) := by
  refine inv.labels.trans ((List.perm_ext_iff_of_nodup inv.nodup hnd).mpr fun a => ⟨inv.sub a, fun ha => ?_⟩)
  obtain ⟨e, he, rfl⟩ := List.mem_map.mp ha
  exact hall e he

/-- what the second `assert` tests: every table label has been merged -/
theorem LoopInv.length_eq_iff {tbl : List Entry} {nchunks : Nat} {s : MState} (inv : LoopInv tbl nchunks s)
    (hnd : (tbl.map (·.1)).Nodup) : tbl.length = totalLabels s.dict ↔ ∀ e ∈ tbl, e.1 ∈ s.mergedKeys := by
  rw [totalLabels, inv.labels.length_eq]
  constructor
  · intro h e he
    refine subset_of_nodup_subset_length inv.nodup inv.sub ?_ (List.mem_map_of_mem he)
    rw [List.length_map, h]
    exact Nat.le_refl _
  · intro hall
    rw [← inv.labels.length_eq, (inv.labels_perm hnd hall).length_eq, List.length_map]

theorem merged_sound {tbl : List Entry} (hnd : (tbl.map (·.1)).Nodup) {nchunks : Nat}
    (hlt : ∀ e ∈ tbl, ∀ b ∈ e.2, b < nchunks) {s : MState} (inv : LoopInv tbl nchunks s)
    (hall : ∀ e ∈ tbl, e.1 ∈ s.mergedKeys) : TblSound tbl (sortByFirst s.dict) := by
  have hmem : ∀ c ∈ sortByFirst s.dict, c ∈ s.dict := fun c => (sortByFirst_perm s.dict).mem_iff.mp
  refine ⟨?_, ?_, ?_⟩
  · exact ((sortByFirst_perm s.dict).flatMap_right _).trans (inv.labels_perm hnd hall)
  · intro c hc b
    rw [inv.key c (hmem c hc) b, mem_unionBlocks, and_iff_right_of_imp]
    rintro ⟨l, _, hb⟩
    obtain ⟨bs, hbs, hb⟩ := holdsTbl_iff.mp hb
    exact hlt _ hbs b hb
  · intro c hc
    refine asc_of_sorted_nodup (inv.sorted c (hmem c hc)) (List.Nodup.sublist ?_ (inv.labels.nodup_iff.mpr inv.nodup))
    rw [List.flatMap_def]
    exact List.sublist_flatten_of_mem (List.mem_map_of_mem (hmem c hc))

theorem find_first {tbl : List Entry} {e : Entry} (he : e ∈ tbl) :
    ∃ f ∈ tbl, f.2 = e.2 ∧ isFirst tbl f = true := by
  have hsome : (tbl.find? (·.2 == e.2)).isSome := List.find?_isSome.mpr ⟨e, he, beq_self_eq_true e.2⟩
  obtain ⟨f, hf⟩ := Option.isSome_iff_exists.mp hsome
  have h2 : f.2 = e.2 := by simpa using List.find?_some hf
  refine ⟨f, List.mem_of_find?_eq_some hf, h2, ?_⟩
  rw [isFirst, h2, hf]
  exact beq_self_eq_true f.1

theorem interCount_self (a : List Nat) : interCount a a = a.length := by
  unfold interCount
  rw [List.filter_eq_self.mpr]
  intro x hx
  simpa using hx

/-- `MIN_CONTAINMENT ≤ 1`: a label that lies wholly inside a cohort is close to it (0.75 qualifies) -/
def Thresholds.AcceptsFull (T : Thresholds) : Prop := ∀ n, 0 < n → T.close n n = true

theorem self_mem_row (T : Thresholds) (hclose : T.AcceptsFull) {tbl : List Entry}
    (hnd : (tbl.map (·.1)).Nodup) {f : Entry} (hf : f ∈ tbl) (hne : f.2 ≠ []) (hfirst : isFirst tbl f = true) :
    f.1 ∈ row T tbl f := by
  have hpos : 0 < f.2.length := List.length_pos_iff.mpr hne
  rw [mem_row T hnd f hf, interCount_self]
  exact ⟨hfirst, hpos, hclose _ hpos⟩

/-- members of one exact cohort enter `merged_keys` together (`LoopInv.mate`), and the first of them is listed in its own
    row, so is merged when that row is visited at the latest -/
theorem all_merged (T : Thresholds) (hclose : T.AcceptsFull) {tbl : List Entry}
    (hasc : (tbl.map (·.1)).Pairwise (· < ·)) (hne : ∀ e ∈ tbl, e.2 ≠ []) (nchunks : Nat) :
    ∀ e ∈ tbl, e.1 ∈ (mergeLoop T tbl nchunks).mergedKeys := by
  intro e he
  obtain ⟨inv, hrow⟩ := mergeLoop_inv T hasc nchunks
  obtain ⟨f, hf, hfe, hfirst⟩ := find_first he
  exact (inv.mate f hf e he hfe).mp
    (hrow f hf (self_mem_row T hclose (hasc.imp Nat.ne_of_lt) hf (hfe ▸ hne e he) hfirst))

inductive PlanExit (T : Thresholds) (nchunks : Nat) (merge : Bool) (tbl : List Entry) : Outcome → Prop
  /-- exits 2-6 -/
  | exact (m : Method) : (m = .blockwise → ∀ e ∈ tbl, e.2.length = 1) →
      PlanExit T nchunks merge tbl (.ok m (exactCohorts tbl))
  /-- exits 3 and 7 with `merge = False`: no plan -/
  | none : merge = false → PlanExit T nchunks merge tbl (.ok .mapreduce [])
  | merged (m : Method) : m ≠ .blockwise → tbl.length = totalLabels (mergeLoop T tbl nchunks).dict →
      PlanExit T nchunks merge tbl (.ok m (sortByFirst (mergeLoop T tbl nchunks).dict))
  | assert (w : String) :
      ¬ ((mergeLoop T tbl nchunks).mergedKeys.length = totalLabels (mergeLoop T tbl nchunks).dict ∧
        tbl.length = totalLabels (mergeLoop T tbl nchunks).dict) →
      PlanExit T nchunks merge tbl (.internalError w)

theorem plan_exit (T : Thresholds) (nchunks : Nat) (single merge : Bool) (tbl : List Entry) :
    PlanExit T nchunks merge tbl (plan T nchunks single merge tbl) := by
  unfold plan
  extract_lets exact nnz isDense pref s actual
  -- one `iteInduction` per exit: `split` would simplify the whole remaining chain again at each of them
  refine iteInduction (fun h => ?_) fun _ => ?_
  · exact .exact _ fun _ e he => by simpa using List.all_eq_true.mp h e he
  refine iteInduction (fun _ => ?_) fun _ => ?_
  · cases merge
    · exact .none rfl
    · exact .exact _ nofun
  refine iteInduction (fun _ => ?_) fun _ => ?_
  · exact .exact _ nofun
  refine iteInduction (fun h => ?_) fun _ => ?_
  · rw [Bool.and_eq_true] at h
    exact .none (by simpa using h.2)
  refine iteInduction (fun h => ?_) fun _ => ?_
  · exact .assert _ fun ha => bne_iff_ne.mp h ha.1
  refine iteInduction (fun h => ?_) fun h => ?_
  · exact .assert _ fun ha => bne_iff_ne.mp h ha.2
  · refine .merged _ ?_ (by simpa using h)
    intro hp
    simp only [pref] at hp
    split at hp <;> cases hp

theorem plan_ok (T : Thresholds) {nchunks : Nat} {single merge : Bool} {tbl : List Entry}
    (hasc : (tbl.map (·.1)).Pairwise (· < ·)) (hlt : ∀ e ∈ tbl, ∀ b ∈ e.2, b < nchunks) {m : Method} {cs : List Cohort}
    (h : plan T nchunks single merge tbl = .ok m cs) :
    (TblSound tbl cs ∧ (m = .blockwise → ∀ e ∈ tbl, e.2.length = 1)) ∨ (m = .mapreduce ∧ cs = [] ∧ merge = false) := by
  have hx := plan_exit T nchunks single merge tbl
  rw [h] at hx
  cases hx with
  | exact _ hb => exact Or.inl ⟨exactCohorts_sound hasc, hb⟩
  | none hm => exact Or.inr ⟨rfl, rfl, hm⟩
  | merged _ hm ha =>
    have hnd : (tbl.map (·.1)).Nodup := hasc.imp Nat.ne_of_lt
    have inv := (mergeLoop_inv T hasc nchunks).1
    exact Or.inl ⟨merged_sound hnd hlt inv ((inv.length_eq_iff hnd).mp ha), fun hb => absurd hb hm⟩

theorem plan_no_internalError (T : Thresholds) (hclose : T.AcceptsFull) (nchunks : Nat)
    (single merge : Bool) {tbl : List Entry} (hasc : (tbl.map (·.1)).Pairwise (· < ·)) (hne : ∀ e ∈ tbl, e.2 ≠ []) :
    ∀ w, plan T nchunks single merge tbl ≠ .internalError w := by
  intro w h
  have hx := plan_exit T nchunks single merge tbl
  rw [h] at hx
  cases hx with
  | assert _ ha =>
    have inv := (mergeLoop_inv T hasc nchunks).1
    exact ha ⟨inv.labels.length_eq.symm,
      (inv.length_eq_iff (hasc.imp Nat.ne_of_lt)).mpr (all_merged T hclose hasc hne nchunks)⟩

theorem exactThresholds_close : exactThresholds.AcceptsFull := by
  intro n _
  simp [exactThresholds]; omega

def WellFormed (elems : List Elem) (nchunks : Nat) : Prop := ∀ e ∈ elems, e.2 < nchunks

theorem TblSound.cohortsSound {elems : List Elem} {nchunks nlabels : Nat} {cs : List Cohort}
    (h : TblSound (tblOf elems nchunks nlabels) cs) (hwf : WellFormed elems nchunks) : CohortsSound elems nlabels cs := by
  constructor
  · rintro l hl ⟨e, he, hel⟩
    rw [occurrences, h.labels.count_eq, (tblOf_nodup elems nchunks nlabels).count, if_pos]
    exact mem_tblOf_labels.mpr ⟨hl, e.2, hwf e he, hel ▸ he⟩
  · intro c hc l hlc e he hel
    have hl := (mem_tblOf_labels.mp (h.labels.subset (List.mem_flatMap.mpr ⟨c, hc, hlc⟩))).1
    exact (h.blocks c hc e.2).mpr ⟨l, hlc, holdsTbl_tblOf.mpr ⟨hl, hwf e he, hel ▸ he⟩⟩

theorem confined_of_single {elems : List Elem} {nchunks nlabels : Nat} (hwf : WellFormed elems nchunks)
    (h : ∀ e ∈ tblOf elems nchunks nlabels, e.2.length = 1) : Confined elems nlabels := by
  intro l hl e he e' he' hel hel'
  have hb : ∀ x ∈ elems, x.1 = (l : Int) → x.2 ∈ blocksOf elems nchunks l :=
    fun x hx hxl => mem_blocksOf.mpr ⟨hwf x hx, hxl ▸ hx⟩
  have h1 := hb e he hel
  have h2 := hb e' he' hel'
  obtain ⟨x, hx⟩ : ∃ x, blocksOf elems nchunks l = [x] :=
    List.length_eq_one_iff.mp (h (l, _) (mem_tblOf.mpr ⟨hl, rfl, List.ne_nil_of_mem h1⟩))
  rw [hx, List.mem_singleton] at h1 h2
  rw [h1, h2]

theorem singleChunk_sound {elems : List Elem} (hwf : WellFormed elems 1) (nlabels : Nat) :
    CohortsSound elems nlabels [([0], List.range nlabels)] := by
  constructor
  · rintro l hl -
    simp only [occurrences, List.flatMap_cons, List.flatMap_nil, List.append_nil]
    rw [List.nodup_range.count, if_pos (List.mem_range.mpr hl)]
  · intro c hc l _ e he _
    have := hwf e he
    rw [List.mem_singleton.mp hc, List.mem_singleton]
    omega

theorem slots_eq_occurrences {cs : List Cohort} {l b : Nat} (hcov : ∀ c ∈ cs, l ∈ c.2 → b ∈ c.1) :
    (cs.flatMap fun c => if b ∈ c.1 then c.2.filter (· == l) else []).length = occurrences cs l := by
  rw [occurrences, List.length_flatMap, List.count_flatMap]
  congr 1
  apply List.map_congr_left
  intro c hc
  show (if b ∈ c.1 then c.2.filter (· == l) else []).length = c.2.count l
  split
  · exact List.count_eq_length_filter.symm
  · rename_i hb
    exact (List.count_eq_zero.mpr fun h => hb (hcov c hc h)).symm

theorem find_ok (T : Thresholds) {elems : List Elem} {nchunks nlabels : Nat} {single merge : Bool} {m : Method}
    {cs : List Cohort} (h : find T elems nchunks nlabels single merge = .ok m cs) :
    (nchunks = 1 ∧ cs = [([0], List.range nlabels)]) ∨
    (TblSound (tblOf elems nchunks nlabels) cs ∧
      (m = .blockwise → ∀ e ∈ tblOf elems nchunks nlabels, e.2.length = 1)) ∨
    (m = .mapreduce ∧ cs = [] ∧ merge = false) := by
  unfold find at h
  split at h
  · rename_i h1
    injection h with _ h2
    exact Or.inl ⟨by simpa using h1, h2.symm⟩
  · exact Or.inr (plan_ok T (tblOf_asc elems nchunks nlabels) (fun e he => tblOf_blocks_lt he) h)

theorem find_no_internalError (T : Thresholds) (hclose : T.AcceptsFull) (elems : List Elem)
    (nchunks nlabels : Nat) (single merge : Bool) : ∀ w, find T elems nchunks nlabels single merge ≠ .internalError w := by
  intro w
  unfold find
  split
  · nofun
  · exact plan_no_internalError T hclose _ _ _ (tblOf_asc _ _ _) (fun e he => (mem_tblOf.mp he).2.2) w

theorem mem_axisIds {cs : List Nat} {a : Nat} (h : a ∈ axisIds cs) : a < cs.length := by
  simp only [axisIds, List.mem_flatMap] at h
  obtain ⟨⟨c, i⟩, hci, ha⟩ := h
  have := List.mem_zipIdx hci
  simp only [List.mem_replicate] at ha
  omega

theorem blockIds_lt : ∀ (chunks : List (List Nat)), ∀ b ∈ blockIds chunks, b < nChunks chunks
  | [], b, hb => by simp [blockIds] at hb; simp [nChunks, hb]
  | cs :: rest, b, hb => by
    simp only [blockIds, List.mem_flatMap, List.mem_map] at hb
    obtain ⟨a, ha, b', hb', rfl⟩ := hb
    have h1 := mem_axisIds ha
    have h2 := blockIds_lt rest b' hb'
    simp only [nChunks, List.map_cons, List.foldr_cons] at h2 ⊢
    calc a * _ + b' < a * _ + _ := Nat.add_lt_add_left h2 _
      _ = (a + 1) * _ := by rw [Nat.add_mul, Nat.one_mul]
      _ ≤ cs.length * _ := Nat.mul_le_mul_right _ h1

theorem wellFormed_zip (codes : List Int) (chunks : List (List Nat)) :
    WellFormed (codes.zip (blockIds chunks)) (nChunks chunks) := by
  intro e he
  exact blockIds_lt chunks e.2 (List.of_mem_zip he).2

end Cohorts
end Flox
