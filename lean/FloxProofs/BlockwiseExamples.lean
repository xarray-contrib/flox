/-
  Non-vacuity examples and necessity counterexamples for `blockwise_eq_spec`.
-/
import FloxProofs.Blockwise
import FloxProofs.EndToEndExamples

namespace Flox
namespace BWEx

open BW E2E

instance (R : Resolved) (ms : List Val) : Decidable (Unmasked R ms) := by unfold Unmasked; infer_instance
instance (R : Resolved) (segs : Segs) : Decidable (HDropped R segs) := by unfold HDropped; infer_instance
instance (R : Resolved) (codes : List Int) (n : Nat) : Decidable (HSomeLabel R codes n) := by
  unfold HSomeLabel; infer_instance

def mk (R : Resolved) (eng : Eng) (sort : Bool) (n : Nat) : Call :=
  { R := R, eng := eng, sort := sort, ngroups := n, knownLabels := true, fillArg := R.userFill, splitEvery := 2 }

-- three blocks; labels 0 | 2 | 3 each within one block, label 1 absent, dropped elements in two blocks,
-- group 3 all-NaN
def codesA : List Int := [0, -1, 0, 2, 2, 3, -1, 3]
def valsA : List Val := [.fin 1, .fin 9, .fin 3, .nan, .fin 5, .nan, .fin 2, .nan]
def chunksA : List Nat := [3, 2, 3]

theorem codesA_ok : CodesOK codesA 4 := by decide +kernel
theorem chunksA_pos : ∀ k ∈ chunksA, 0 < k := by decide
theorem codesA_one : EachLabelInOneBlock chunksA codesA := by decide +kernel

/-- a fill is given, so `H_dropped` and `H_somelabel` hold whatever the data -/
theorem Rnanmean_bwDropped {segs : Segs} : HDropped Rnanmean segs := fun h => nomatch h
theorem Rnanmean_someLabel {codes : List Int} {n : Nat} : HSomeLabel Rnanmean codes n := fun h => nomatch h

/-- `blockwise_eq_spec` applies to `nanmean`, `min_count=1`, `fill_value=-1`, `sort=True` -/
theorem nanmeanA_blockwise :
    runKnown (mk Rnanmean .npg true 4) (.blockwise false) true chunksA (codeKeys codesA) valsA
      = specResult .nanmean Rnanmean codesA valsA 4 :=
  blockwise_eq_spec Rnanmean (.mean true) (mk Rnanmean .npg true 4) 4 true chunksA codesA valsA rfl rfl rfl rfl
    Rnanmean_shape codesA_ok rfl rfl chunksA_pos codesA_one rfl Rnanmean_allnan Rnanmean_bwDropped Rnanmean_someLabel

example : runKnown (mk Rnanmean .npg true 4) (.blockwise false) true chunksA (codeKeys codesA) valsA
    = specResult .nanmean Rnanmean codesA valsA 4 := nanmeanA_blockwise

theorem nanmeanA_spec : specResult .nanmean Rnanmean codesA valsA 4
    = .ok [Val.fin 2, Val.fin (-1), Val.fin 5, Val.fin (-1)] := by decide +kernel

example : specResult .nanmean Rnanmean codesA valsA 4
    = .ok [Val.fin 2, Val.fin (-1), Val.fin 5, Val.fin (-1)] := nanmeanA_spec

-- `List.mergeSort` is defined by well-founded recursion, so the kernel cannot evaluate the `sort=True` path with
-- two or more labels directly: the concrete value is obtained through the theorem
example : runKnown (mk Rnanmean .npg true 4) (.blockwise false) true chunksA (codeKeys codesA) valsA
    = .ok [Val.fin 2, Val.fin (-1), Val.fin 5, Val.fin (-1)] := nanmeanA_blockwise.trans nanmeanA_spec

/-- the same call with `sort=False`, evaluated directly -/
theorem nanmeanA_unsorted :
    runKnown (mk Rnanmean .npg false 4) (.blockwise false) true chunksA (codeKeys codesA) valsA
      = .ok [Val.fin 2, Val.fin (-1), Val.fin 5, Val.fin (-1)] := by decide +kernel

example : runKnown (mk Rnanmean .npg false 4) (.blockwise false) true chunksA (codeKeys codesA) valsA
    = .ok [Val.fin 2, Val.fin (-1), Val.fin 5, Val.fin (-1)] := nanmeanA_unsorted

-- `sort=False`, labels in order of first appearance, no fill, no `min_count`: every requested label present
def codesB : List Int := [2, -1, 2, 0, 0, 3, -1, 1]
def valsB : List Val := [.fin 1, .fin 9, .fin 3, .nan, .fin 5, .nan, .fin 2, .fin 4]

/-- `blockwise_eq_spec` applies to `sum` without fill, `sort=False` (`H_dropped` and `H_somelabel` hold non-trivially:
    `userFill = none`) -/
example : runKnown (mk Rsum .npg false 4) (.blockwise false) true chunksA (codeKeys codesB) valsB
    = specResult .sum Rsum codesB valsB 4 :=
  blockwise_eq_spec Rsum (.simple .sum .sum Val.zero) (mk Rsum .npg false 4) 4 true chunksA codesB valsB
    rfl rfl rfl rfl Rsum_shape (by decide +kernel) rfl rfl chunksA_pos (by decide +kernel) rfl (by decide +kernel)
    (by decide +kernel) (by decide +kernel)

example : runKnown (mk Rsum .npg false 4) (.blockwise false) true chunksA (codeKeys codesB) valsB
    = .ok [Val.nan, Val.fin 4, Val.fin 4, Val.nan] := by decide +kernel

/-- `blockwise_eq_eager` applies (`nanmean`; `H_absent` through the count mask) -/
example : runKnown (mk Rnanmean .npg true 4) (.blockwise false) true chunksA (codeKeys codesA) valsA
    = runKnown (mk Rnanmean .npg true 4) .eager true [8] (codeKeys codesA) valsA :=
  blockwise_eq_eager Rnanmean (.mean true) (mk Rnanmean .npg true 4) 4 true chunksA [8] codesA valsA rfl rfl rfl rfl
    Rnanmean_shape codesA_ok rfl rfl chunksA_pos codesA_one rfl Rnanmean_allnan Rnanmean_bwDropped Rnanmean_someLabel
    (fun _ _ => Rnanmean_absent _)

/-- the `ValueError` branch is reachable and agrees: `nanmean`, `min_count=1`, no fill; group 3 is all-NaN -/
example : runKnown (mk { Rnanmean with userFill := none } .npg true 4) (.blockwise false) true chunksA
      (codeKeys codesA) valsA = specResult .nanmean { Rnanmean with userFill := none } codesA valsA 4 :=
  blockwise_eq_spec { Rnanmean with userFill := none } (.mean true) (mk { Rnanmean with userFill := none } .npg true 4)
    4 true chunksA codesA valsA rfl rfl rfl rfl (by decide +kernel) codesA_ok rfl rfl chunksA_pos codesA_one rfl
    (by decide +kernel) (by decide +kernel) (by decide +kernel)

example : specResult .nanmean { Rnanmean with userFill := none } codesA valsA 4 = .error "ValueError" := by
  decide +kernel

/-- flox's own engine: `nanmax` -/
example : runKnown (mk Rnanmax .flox true 4) (.blockwise false) true chunksA (codeKeys codesA) valsA
    = specResult .nanmax Rnanmax codesA valsA 4 :=
  blockwise_eq_spec_flox Rnanmax (.simple .nanmax .nanmax Val.ninf) (mk Rnanmax .flox true 4) 4 true chunksA codesA
    valsA rfl rfl rfl rfl Rnanmax_shape (by decide) codesA_ok rfl rfl chunksA_pos codesA_one rfl Rnanmax_allnan
    (fun h => nomatch h) (fun h => nomatch h)

/-- `.blockwise true` on one block = eager -/
example : runKnown (mk Rnanmean .npg true 4) (.blockwise true) true [8] (codeKeys codesA) valsA
    = runKnown (mk Rnanmean .npg true 4) .eager true [8] (codeKeys codesA) valsA :=
  blockwise_single_eq_eager _ true 8 [8] _ _ (by decide) (by decide)

/-- Non-empty blocks (`hpos`) are necessary.  An empty block announces no label but `chunk_reduce` of the model
    returns one slot (`groups = [NaN]`, the fill) for it: labels and values of the concatenation are misaligned
    (here the announced labels happen to equal the expected ones, so the 3 values are returned as they are; with
    `sort=True` the `zip` inside `sortPairs` truncates them to `[1, NaN]`). -/
theorem empty_block_counterexample :
    EachLabelInOneBlock [1, 0, 1] [0, 1]
    ∧ runKnown (mk Rsum .npg false 2) (.blockwise false) true [1, 0, 1] (codeKeys [0, 1]) [Val.fin 1, Val.fin 2]
        = .ok [Val.fin 1, Val.nan, Val.fin 2]
    ∧ specResult .sum Rsum [0, 1] [Val.fin 1, Val.fin 2] 2 = .ok [Val.fin 1, Val.fin 2] := by decide +kernel

/-- `c.fillArg = R.userFill` is necessary: absent labels get `c.fillArg` through the final reindex, the
    specification gives them `R.userFill` -/
theorem fillArg_counterexample :
    runKnown { mk Rsum .npg true 2 with fillArg := some (Val.fin 7) } (.blockwise false) true [1] (codeKeys [0])
        [Val.fin 1] = .ok [Val.fin 1, Val.fin 7]
    ∧ specResult .sum Rsum [0] [Val.fin 1] 2 = .error "ValueError" := by decide +kernel

/-- `H_dropped` is necessary.  `nanmean`, `min_count=1`, no fill: the dropped element (code -1) is NaN, so inside
    its block the group "-1" has 0 valid members, the count mask fires and `_finalize_results` raises, although no
    requested label needs a fill.  The eager path (and the specification) return the result. -/
theorem H_dropped_counterexample :
    ¬ HDropped { Rnanmean with userFill := none } (segsOf [2] [0, -1] [Val.fin 1, Val.nan])
    ∧ HSomeLabel { Rnanmean with userFill := none } [0, -1] 1
    ∧ EachLabelInOneBlock [2] [0, -1]
    ∧ runKnown (mk { Rnanmean with userFill := none } .npg true 1) (.blockwise false) true [2] (codeKeys [0, -1])
        [Val.fin 1, Val.nan] = .error "ValueError"
    ∧ specResult .nanmean { Rnanmean with userFill := none } [0, -1] [Val.fin 1, Val.nan] 1 = .ok [Val.fin 1]
    ∧ runKnown (mk { Rnanmean with userFill := none } .npg true 1) .eager true [2] (codeKeys [0, -1])
        [Val.fin 1, Val.nan] = .ok [Val.fin 1] := by decide +kernel

/-- `H_somelabel` is necessary.  Every element is dropped, in two blocks: both `-1` entries are removed, the final
    reindex sees an empty array and fills with `fill_value=None` ↦ NaN without raising; the specification demands a
    fill.  (With a single block the `-1` entry stays and the reindex raises.) -/
theorem H_somelabel_counterexample :
    ¬ HSomeLabel Rsum [-1, -1] 1 ∧ HDropped Rsum (segsOf [1, 1] [-1, -1] [Val.fin 1, Val.fin 2])
    ∧ EachLabelInOneBlock [1, 1] [-1, -1]
    ∧ runKnown (mk Rsum .npg false 1) (.blockwise false) true [1, 1] (codeKeys [-1, -1]) [Val.fin 1, Val.fin 2]
        = .ok [Val.nan]
    ∧ specResult .sum Rsum [-1, -1] [Val.fin 1, Val.fin 2] 1 = .error "ValueError"
    ∧ runKnown (mk Rsum .npg true 1) (.blockwise false) true [2] (codeKeys [-1, -1]) [Val.fin 1, Val.fin 2]
        = .error "ValueError" := by decide +kernel

/-- `CodesOK` is necessary: an out-of-range label is an ordinary group of its block and can trip the count mask -/
theorem codesOK_counterexample :
    ¬ CodesOK [0, 5] 1
    ∧ HDropped { Rnanmean with userFill := none } (segsOf [2] [0, 5] [Val.fin 1, Val.nan])
    ∧ runKnown (mk { Rnanmean with userFill := none } .npg true 1) (.blockwise false) true [2] (codeKeys [0, 5])
        [Val.fin 1, Val.nan] = .error "ValueError"
    ∧ specResult .nanmean { Rnanmean with userFill := none } [0, 5] [Val.fin 1, Val.nan] 1 = .ok [Val.fin 1] := by
  decide +kernel

/-- `chunks.sum = codes.length` is necessary: blocks that do not cover the array drop elements -/
theorem chunks_sum_counterexample :
    runKnown (mk Rsum .npg true 2) (.blockwise false) true [1] (codeKeys [0, 1]) [Val.fin 1, Val.fin 2]
      = .error "ValueError"
    ∧ specResult .sum Rsum [0, 1] [Val.fin 1, Val.fin 2] 2 = .ok [Val.fin 1, Val.fin 2] := by decide +kernel

/-- `H_allnan` is necessary (as for the eager path): an all-NaN group gets the NumPy fill from numpy_groupies -/
theorem H_allnan_counterexample :
    ¬ HAllNaN Rnanfirst0 (.simple .nanfirst .nanfirst Val.nan)
    ∧ runKnown (mk Rnanfirst0 .npg true 1) (.blockwise false) true [1] (codeKeys [0]) [Val.nan] = .ok [Val.fin 0]
    ∧ specResult .nanfirst Rnanfirst0 [0] [Val.nan] 1 = .ok [Val.nan] := by decide +kernel

/-- `.blockwise true` with more than one block: the model returns `ValueError` (the graph has one output block per
    input block while the announced groups are `expected_groups`) -/
theorem blockwise_true_two_blocks :
    runKnown (mk Rnanmean .npg true 4) (.blockwise true) true [4, 4] (codeKeys codesA) valsA = .error "ValueError" := by
  decide +kernel

/-- `chunks ≠ []` is not needed by `blockwise_eq_spec`: with no data and a fill the empty reindex fills every slot
    (without a fill `H_somelabel` fails) -/
example : runKnown (mk Rnanmean .npg true 2) (.blockwise false) true [] (codeKeys []) []
    = specResult .nanmean Rnanmean [] [] 2 :=
  blockwise_eq_spec Rnanmean (.mean true) (mk Rnanmean .npg true 2) 2 true [] [] [] rfl rfl rfl rfl
    Rnanmean_shape (by decide) rfl rfl (by decide) (by decide) rfl Rnanmean_allnan Rnanmean_bwDropped
    Rnanmean_someLabel

/-- `eager_eq_spec` with `sort=False` (it has no hypothesis on `c.sort`) -/
example : runKnown (mk Rnanmean .npg false 4) .eager true [8] (codeKeys codes8) vals8
    = specResult .nanmean Rnanmean codes8 vals8 4 :=
  eager_eq_spec Rnanmean (.mean true) (mk Rnanmean .npg false 4) 4 true [8] codes8 vals8 rfl rfl rfl rfl
    Rnanmean_shape codes8_ok rfl (fun _ _ => Rnanmean_absent _) Rnanmean_allnan

end BWEx
end Flox
