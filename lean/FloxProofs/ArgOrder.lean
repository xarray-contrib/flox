/-
  The comparison of the arg kernels and the leftmost best element of a list of (value, index) pairs.

  `argBetter k` is a strict weak order: NaN adjoined on top (`argmax`, `argmin`) or at the bottom (`nanargmax`,
  `nanargmin`) of `<` (`*max`) or `>` (`*min`).  Hence "keep the current best unless the new element is strictly
  better" (`pickOp`) is associative, `pick1` may be taken block by block (`pick1_flatten`), and `pick1 k ps` is the pair
  at which `ps` splits into pairs it beats and pairs that do not beat it (`pick1_split`).  `argBest`, the index based
  form in `kEval`, selects the same element (`getD_argBest`, `argBest_spec`).
-/
import FloxModel.Pipeline

namespace Flox.Grp

/-- `better y b`: does a new element `y` replace the current best `b`?  (exactly the lambdas in `kEval`) -/
def argBetter : Kernel → Val → Val → Bool
  | .argmax, y, b => Val.lt b y || (y.isNaN && !b.isNaN)
  | .argmin, y, b => Val.lt y b || (y.isNaN && !b.isNaN)
  | .nanargmax, y, b => Val.lt b y || (b.isNaN && !y.isNaN)
  | .nanargmin, y, b => Val.lt y b || (b.isNaN && !y.isNaN)
  | _, _, _ => false

theorem kEval_arg (k : Kernel) (hk : isArgKernel k = true) (xs : List Val) :
    kEval k xs = Val.ofNat (argBest (argBetter k) xs) := by
  cases k <;> simp [isArgKernel] at hk <;> rfl

theorem _root_.Flox.Val.lt_negtrans {a b c : Val} (ha : a.isNaN = false) (hb : b.isNaN = false) (hc : c.isNaN = false)
    (h1 : Val.lt a b = false) (h2 : Val.lt b c = false) : Val.lt a c = false := by
  cases a <;> cases b <;> cases c <;> simp_all [Val.lt, Val.isNaN] <;> grind

theorem _root_.Flox.Val.lt_asymm {a b : Val} (h : Val.lt a b = true) : Val.lt b a = false := by
  cases a <;> cases b <;> simp_all [Val.lt] <;> grind

theorem _root_.Flox.Val.lt_of_isNaN_left {a : Val} (b : Val) (h : a.isNaN = true) : Val.lt a b = false := by
  cases a <;> cases b <;> first | rfl | cases h

theorem _root_.Flox.Val.lt_of_isNaN_right (a : Val) {b : Val} (h : b.isNaN = true) : Val.lt a b = false := by
  cases a <;> cases b <;> first | rfl | cases h

theorem _root_.Flox.Val.lt_trans' {a b c : Val} (h1 : Val.lt a b = true) (h2 : Val.lt b c = true) : Val.lt a c = true := by
  have hn : ∀ {x y : Val}, Val.lt x y = true → x.isNaN = false ∧ y.isNaN = false := by
    intro x y h
    constructor
    · cases hx : x.isNaN
      · rfl
      · rw [Val.lt_of_isNaN_left y hx] at h; cases h
    · cases hy : y.isNaN
      · rfl
      · rw [Val.lt_of_isNaN_right x hy] at h; cases h
  cases e : Val.lt a c
  · rw [Val.lt_negtrans (hn h1).1 (hn h2).2 (hn h1).2 e (Val.lt_asymm h2)] at h1
    cases h1
  · rfl

/-- what the arg kernels compare with: a strict weak order on the non-NaN values (`Val.lt` for `*max`, its converse for
    `*min`) in which NaN is incomparable -/
structure NaNFreeOrder (lt : Val → Val → Bool) : Prop where
  asymm {a b : Val} : lt a b = true → lt b a = false
  negtrans {a b c : Val} : a.isNaN = false → b.isNaN = false → c.isNaN = false →
    lt a b = false → lt b c = false → lt a c = false
  nan_left {a : Val} (b : Val) : a.isNaN = true → lt a b = false
  nan_right (a : Val) {b : Val} : b.isNaN = true → lt a b = false

theorem ltOrder : NaNFreeOrder Val.lt := ⟨Val.lt_asymm, Val.lt_negtrans, Val.lt_of_isNaN_left, Val.lt_of_isNaN_right⟩

theorem NaNFreeOrder.converse {lt : Val → Val → Bool} (h : NaNFreeOrder lt) : NaNFreeOrder fun a b => lt b a :=
  ⟨h.asymm, fun ha hb hc h1 h2 => h.negtrans hc hb ha h2 h1, fun b ha => h.nan_right b ha, fun a _ hb => h.nan_left a hb⟩

/-- NaN above everything: the comparison of `argmax` / `argmin` (`y` replaces the current best `b`) -/
def nanTop (lt : Val → Val → Bool) (y b : Val) : Bool := lt b y || (y.isNaN && !b.isNaN)

/-- NaN below everything: the comparison of `nanargmax` / `nanargmin` -/
def nanBot (lt : Val → Val → Bool) (y b : Val) : Bool := lt b y || (b.isNaN && !y.isNaN)

/-- a comparison under which "leftmost best" is associative -/
structure StrictWeak (better : Val → Val → Bool) : Prop where
  asymm {a b : Val} : better a b = true → better b a = false
  negtrans {a b c : Val} : better c b = false → better b a = false → better c a = false

theorem StrictWeak.irrefl {better : Val → Val → Bool} (h : StrictWeak better) (a : Val) : better a a = false := by
  cases e : better a a with
  | false => rfl
  | true => exact e.symm.trans (h.asymm e)

theorem StrictWeak.trans {better : Val → Val → Bool} (h : StrictWeak better) {a b c : Val}
    (h1 : better c b = true) (h2 : better b a = true) : better c a = true := by
  cases e : better c a with
  | true => rfl
  | false => rw [h.negtrans e (h.asymm h2)] at h1; cases h1

theorem NaNFreeOrder.nanTop {lt : Val → Val → Bool} (h : NaNFreeOrder lt) : StrictWeak (nanTop lt) where
  asymm := by
    intro a b
    cases ha : a.isNaN <;> cases hb : b.isNaN <;> simp [Grp.nanTop, h.nan_left, h.nan_right, *]
    exact h.asymm
  negtrans := by
    intro a b c
    cases ha : a.isNaN <;> cases hb : b.isNaN <;> cases hc : c.isNaN <;>
      simp [Grp.nanTop, h.nan_left, h.nan_right, *]
    exact fun h1 h2 => h.negtrans ha hb hc h2 h1

theorem StrictWeak.converse {better : Val → Val → Bool} (h : StrictWeak better) : StrictWeak fun a b => better b a :=
  ⟨h.asymm, fun h1 h2 => h.negtrans h2 h1⟩

theorem NaNFreeOrder.nanBot {lt : Val → Val → Bool} (h : NaNFreeOrder lt) : StrictWeak (nanBot lt) :=
  h.converse.nanTop.converse

theorem argBetter_strictWeak (k : Kernel) : StrictWeak (argBetter k) := by
  cases k
  case argmax => exact ltOrder.nanTop
  case argmin => exact ltOrder.converse.nanTop
  case nanargmax => exact ltOrder.nanBot
  case nanargmin => exact ltOrder.converse.nanBot
  all_goals exact ⟨fun h => (nomatch h), fun _ _ => rfl⟩

abbrev VI := Val × Val

/-- keep the current best `a` unless the new element `b` is strictly better (`argBetter k new current`: the other order) -/
def pickOp (k : Kernel) (a b : VI) : VI := if argBetter k b.1 a.1 then b else a

/-- leftmost best pair -/
def pick1 (k : Kernel) : List VI → VI
  | [] => (Val.nan, Val.nan)
  | p :: ps => ps.foldl (pickOp k) p

theorem pickOp_of_not_better (k : Kernel) (a b : VI) (h : argBetter k b.1 a.1 = false) : pickOp k a b = a := by
  simp [pickOp, h]

theorem pickOp_of_better (k : Kernel) (a b : VI) (h : argBetter k b.1 a.1 = true) : pickOp k a b = b := by
  simp [pickOp, h]

theorem pickOp_assoc (k : Kernel) (a b c : VI) : pickOp k (pickOp k a b) c = pickOp k a (pickOp k b c) := by
  have sw := argBetter_strictWeak k
  cases hba : argBetter k b.1 a.1 <;> cases hcb : argBetter k c.1 b.1
  · rw [pickOp_of_not_better k a b hba, pickOp_of_not_better k b c hcb, pickOp_of_not_better k a b hba,
      pickOp_of_not_better k a c (sw.negtrans hcb hba)]
  · rw [pickOp_of_not_better k a b hba, pickOp_of_better k b c hcb]
  · rw [pickOp_of_better k a b hba, pickOp_of_not_better k b c hcb, pickOp_of_better k a b hba]
  · rw [pickOp_of_better k a b hba, pickOp_of_better k b c hcb, pickOp_of_better k a c (sw.trans hcb hba)]

theorem foldl_pickOp_init (k : Kernel) (a b : VI) (ps : List VI) :
    ps.foldl (pickOp k) (pickOp k a b) = pickOp k a (ps.foldl (pickOp k) b) := by
  induction ps generalizing b with
  | nil => rfl
  | cons p ps ih => simp only [List.foldl_cons]; rw [pickOp_assoc, ih]

theorem pick1_append (k : Kernel) (xs ys : List VI) (hx : xs ≠ []) (hy : ys ≠ []) :
    pick1 k (xs ++ ys) = pickOp k (pick1 k xs) (pick1 k ys) := by
  cases xs with
  | nil => exact absurd rfl hx
  | cons x xs =>
    cases ys with
    | nil => exact absurd rfl hy
    | cons y ys =>
      simp only [pick1, List.cons_append, List.foldl_append, List.foldl_cons]
      exact foldl_pickOp_init k _ y ys

theorem pick1_singleton (k : Kernel) (a : VI) : pick1 k [a] = a := rfl

theorem pick1_cons (k : Kernel) (q : VI) (qs : List VI) (hne : qs ≠ []) :
    pick1 k (q :: qs) = pickOp k q (pick1 k qs) := by
  have := pick1_append k [q] qs (by simp) hne
  simpa [pick1] using this

theorem pick1_flatten (k : Kernel) (pss : List (List VI)) (hne : pss ≠ []) (hall : ∀ ps ∈ pss, ps ≠ []) :
    pick1 k (pss.map (pick1 k)) = pick1 k pss.flatten := by
  induction pss with
  | nil => exact absurd rfl hne
  | cons ps pss ih =>
    by_cases hp : pss = []
    · subst hp
      simp [pick1_singleton]
    · have hps : ps ≠ [] := hall ps (by simp)
      have hfl : pss.flatten ≠ [] := by
        cases pss with
        | nil => exact absurd rfl hp
        | cons q qs =>
          have : q ≠ [] := hall q (by simp)
          simp [this]
      rw [List.map_cons, pick1_cons k _ _ (by simpa using hp), ih hp (fun q hq => hall q (by simp [hq])),
        List.flatten_cons, pick1_append k ps _ hps hfl]

theorem pick1_split (k : Kernel) (ps : List VI) (hne : ps ≠ []) :
    ∃ pre post, ps = pre ++ pick1 k ps :: post ∧ (∀ y ∈ pre, argBetter k (pick1 k ps).1 y.1 = true)
      ∧ (∀ y ∈ post, argBetter k y.1 (pick1 k ps).1 = false) := by
  have sw := argBetter_strictWeak k
  induction ps with
  | nil => exact absurd rfl hne
  | cons q qs ih =>
    by_cases hqs : qs = []
    · subst hqs
      exact ⟨[], [], rfl, by simp, by simp⟩
    · obtain ⟨pre, post, hsplit, hpre, hpost⟩ := ih hqs
      rw [pick1_cons k q qs hqs]
      by_cases hb : argBetter k (pick1 k qs).1 q.1 = true
      · rw [pickOp_of_better k _ _ hb]
        refine ⟨q :: pre, post, by rw [List.cons_append, ← hsplit], ?_, hpost⟩
        intro y hy
        rcases List.mem_cons.mp hy with rfl | hy
        · exact hb
        · exact hpre y hy
      · -- the head stays: nothing in the tail beats it, since nothing there beats the tail's winner
        have hb : argBetter k (pick1 k qs).1 q.1 = false := by simpa using hb
        rw [pickOp_of_not_better k _ _ hb]
        refine ⟨[], qs, rfl, by simp, ?_⟩
        intro y hy
        rw [hsplit] at hy
        rcases List.mem_append.mp hy with hy | hy
        · exact sw.negtrans (sw.asymm (hpre y hy)) hb
        · rcases List.mem_cons.mp hy with rfl | hy
          · exact hb
          · exact sw.negtrans (hpost y hy) hb

theorem pick1_mem (k : Kernel) (ps : List VI) (hne : ps ≠ []) : pick1 k ps ∈ ps := by
  obtain ⟨pre, post, h, _⟩ := pick1_split k ps hne
  have : pick1 k ps ∈ pre ++ pick1 k ps :: post := by simp
  rwa [← h] at this

theorem pick1_eq_of_split (k : Kernel) (pre post : List VI) (x : VI)
    (hpre : ∀ y ∈ pre, argBetter k x.1 y.1 = true) (hpost : ∀ y ∈ post, argBetter k y.1 x.1 = false) :
    pick1 k (pre ++ x :: post) = x := by
  induction pre with
  | nil =>
    by_cases hp : post = []
    · subst hp; rfl
    · rw [List.nil_append, pick1_cons k x post hp]
      exact pickOp_of_not_better k _ _ (hpost _ (pick1_mem k post hp))
  | cons p pre ih =>
    rw [List.cons_append, pick1_cons k p _ (by simp), ih (fun y hy => hpre y (by simp [hy]))]
    exact pickOp_of_better k _ _ (hpre p (by simp))

/-- dominated pairs can be dropped (NaN members under `nanarg*`; the fill pairs of all-NaN blocks).  Split the filtered
    list at its winner `w` and lift the split to `ps`.  Before `w` a pair is selected, hence beaten by `w`, or dropped,
    hence dominated by `w`; after `w` a selected pair does not beat `w`, and a dominated one cannot (asymmetry).  So `w`
    is the leftmost best of `ps` (`pick1_eq_of_split`). -/
theorem pick1_filter (k : Kernel) (good : VI → Bool) (ps : List VI) (hne : ps.filter good ≠ [])
    (hdom : ∀ b ∈ ps, good b = false → argBetter k (pick1 k (ps.filter good)).1 b.1 = true) :
    pick1 k ps = pick1 k (ps.filter good) := by
  have sw := argBetter_strictWeak k
  obtain ⟨pre, post, hsplit, hpre, hpost⟩ := pick1_split k _ hne
  generalize pick1 k (ps.filter good) = w at *
  obtain ⟨l₁, l₂, rfl, h₁, h₂⟩ := List.filter_eq_append_iff.mp hsplit
  obtain ⟨m₁, m₂, rfl, hm₁, _, hm₂⟩ := List.filter_eq_cons_iff.mp h₂
  have hside : ∀ (l : List VI) (y : VI), y ∈ l → l ⊆ l₁ ++ (m₁ ++ w :: m₂) →
      good y = true ∧ y ∈ l.filter good ∨ argBetter k w.1 y.1 = true := by
    intro l y hy hsub
    by_cases hg : good y = true
    · exact Or.inl ⟨hg, List.mem_filter.mpr ⟨hy, hg⟩⟩
    · exact Or.inr (hdom y (hsub hy) (by simpa using hg))
  rw [← List.append_assoc]
  apply pick1_eq_of_split
  · intro y hy
    rcases List.mem_append.mp hy with hy | hy
    · rcases hside l₁ y hy (by simp) with ⟨_, h⟩ | h
      · exact hpre y (h₁ ▸ h)
      · exact h
    · exact hdom y (by simp [hy]) (by simpa using hm₁ y hy)
  · intro y hy
    rcases hside m₂ y hy (by intro z hz; simp [hz]) with ⟨_, h⟩ | h
    · exact hpost y (hm₂ ▸ h)
    · exact sw.asymm h

def FirstBest (better : Val → Val → Bool) (xs : List Val) (r : Nat) : Prop :=
  r < xs.length ∧ (∀ j < r, better (xs.getD r Val.nan) (xs.getD j Val.nan) = true)
    ∧ (∀ j < xs.length, better (xs.getD j Val.nan) (xs.getD r Val.nan) = false)

theorem argBest_go_firstBest (better : Val → Val → Bool) (sw : StrictWeak better) (pre : List Val) (best : Val)
    (bi : Nat) (ys : List Val) (hpre : FirstBest better pre bi) (hb : pre.getD bi Val.nan = best) :
    FirstBest better (pre ++ ys) (argBest.go better best bi pre.length ys) := by
  induction ys generalizing pre best bi with
  | nil => simpa only [argBest.go, List.append_nil] using hpre
  | cons y ys ih =>
    obtain ⟨hbi, h1, h2⟩ := hpre
    rw [hb] at h1 h2
    have hlen : (pre ++ [y]).length = pre.length + 1 := by simp
    have hold : ∀ j < pre.length, (pre ++ [y]).getD j Val.nan = pre.getD j Val.nan := fun j hj => by
      simp [List.getD_eq_getElem?_getD, List.getElem?_append_left hj]
    have hnew : (pre ++ [y]).getD pre.length Val.nan = y := by simp [List.getD_eq_getElem?_getD]
    rw [show pre ++ y :: ys = (pre ++ [y]) ++ ys by simp, argBest.go, ← hlen]
    by_cases hyb : better y best = true
    · -- `y` is the new first extreme: it beats `best`, which nothing before beats
      rw [if_pos hyb]
      refine ih (pre ++ [y]) y pre.length ⟨by omega, fun j hj => ?_, fun j hj => ?_⟩ hnew
      · rw [hnew, hold j hj]
        cases e : better y (pre.getD j Val.nan)
        · rw [sw.negtrans e (h2 j hj)] at hyb; cases hyb
        · rfl
      · rw [hnew]
        rcases Nat.lt_or_eq_of_le (Nat.le_of_lt_succ (hlen ▸ hj)) with hj' | rfl
        · rw [hold j hj']
          cases e : better (pre.getD j Val.nan) y
          · rfl
          · have := h2 j hj'
            rw [sw.trans e hyb] at this; cases this
        · rw [hnew]; exact sw.irrefl y
    · rw [if_neg hyb]
      have hbi' := (hold bi hbi).trans hb
      refine ih (pre ++ [y]) best bi ⟨by omega, fun j hj => ?_, fun j hj => ?_⟩ hbi'
      · rw [hbi', hold j (by omega)]; exact h1 j hj
      · rw [hbi']
        rcases Nat.lt_or_eq_of_le (Nat.le_of_lt_succ (hlen ▸ hj)) with hj' | rfl
        · rw [hold j hj']; exact h2 j hj'
        · rw [hnew]; simpa using hyb

theorem argBest_firstBest (better : Val → Val → Bool) (sw : StrictWeak better) (xs : List Val) (hne : xs ≠ []) :
    FirstBest better xs (argBest better xs) := by
  match xs, hne with
  | x :: xs, _ =>
    refine argBest_go_firstBest better sw [x] x 0 xs ⟨by simp, fun j hj => absurd hj (Nat.not_lt_zero j), ?_⟩ rfl
    intro j hj
    have : j = 0 := by simpa using hj
    subst this; exact sw.irrefl x

theorem argBest_go_lt (better : Val → Val → Bool) (best : Val) (bi i : Nat) (ys : List Val) (h : bi < i) :
    argBest.go better best bi i ys < i + ys.length := by
  induction ys generalizing best bi i with
  | nil => simpa [argBest.go] using h
  | cons y ys ih =>
    simp only [argBest.go, List.length_cons]
    split
    · have := ih y i (i + 1) (by omega); omega
    · have := ih best bi (i + 1) (by omega); omega

theorem argBest_lt (better : Val → Val → Bool) (xs : List Val) (h : xs ≠ []) : argBest better xs < xs.length := by
  cases xs with
  | nil => exact absurd rfl h
  | cons x xs =>
    have := argBest_go_lt better x 0 1 xs (by omega)
    simp only [argBest, List.length_cons]
    omega

theorem getD_argBest (k : Kernel) (ps : List VI) (d : VI) (hne : ps ≠ []) :
    ps.getD (argBest (argBetter k) (ps.map (·.1))) d = pick1 k ps := by
  obtain ⟨hlt, hpre, hpost⟩ := argBest_firstBest _ (argBetter_strictWeak k) (ps.map (·.1)) (by simpa using hne)
  generalize argBest (argBetter k) (ps.map (·.1)) = i at hlt hpre hpost
  rw [List.length_map] at hlt hpost
  have hfst : ∀ j < ps.length, (ps.map (·.1)).getD j Val.nan = ps[j]!.1 := fun j hj => by
    simp [List.getD_eq_getElem?_getD, hj]
  rw [hfst i hlt] at hpre hpost
  have hsplit : ps = ps.take i ++ ps[i] :: ps.drop (i + 1) := by simp
  rw [List.getD_eq_getElem?_getD, List.getElem?_eq_getElem hlt, Option.getD_some]
  conv => rhs; rw [hsplit]
  have hi : ps[i]! = ps[i] := by simp [hlt]
  refine (pick1_eq_of_split k _ _ _ ?_ ?_).symm
  · intro y hy
    obtain ⟨j, hj, rfl⟩ := List.getElem_of_mem hy
    have hj' : j < i := by rw [List.length_take] at hj; omega
    have := hpre j hj'
    rwa [hfst j (by omega), hi, show ps[j]! = (ps.take i)[j] by simp [show j < ps.length by omega]] at this
  · intro y hy
    obtain ⟨j, hj, rfl⟩ := List.getElem_of_mem hy
    have hj' : i + 1 + j < ps.length := by simpa [Nat.add_comm, Nat.lt_sub_iff_add_lt] using hj
    have := hpost (i + 1 + j) hj'
    rwa [hfst _ hj', hi, show ps[i + 1 + j]! = (ps.drop (i + 1))[j] by simp [hj']] at this

theorem argBest_spec (k : Kernel) (ms : List Val) (hne : ms ≠ []) :
    let i := argBest (argBetter k) ms
    i < ms.length ∧ (∀ v ∈ ms, argBetter k v (ms.getD i Val.nan) = false)
      ∧ (∀ i' < i, argBetter k (ms.getD i Val.nan) (ms.getD i' Val.nan) = true) := by
  obtain ⟨hlt, hpre, hpost⟩ := argBest_firstBest _ (argBetter_strictWeak k) ms hne
  refine ⟨hlt, fun v hv => ?_, hpre⟩
  obtain ⟨j, hj, rfl⟩ := List.getElem_of_mem hv
  simpa [List.getD_eq_getElem?_getD, hj] using hpost j hj

end Flox.Grp
