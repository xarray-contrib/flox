/-
  C10: algebra of the sequential scans and of the specification `groupedScan` (FloxModel/ScanSpec.lean only, nothing of
  flox's code path).

  The carried value of a scan is a monoid (`comb_mon`: `comb` with unit `init`) and a step is `comb` with the lifted
  element `step f (init f) v` (NaN → 0 for the sum, `v` itself for a fill); everything about cutting a history in two
  follows from that.  The specification `groupedScanFrom` is used through `groupedScanFrom_nil` and its two state
  equations `groupedScanFrom_cons` and `scanLast_mem_snoc`.
-/
import FloxModel.ScanSpec
import FloxProofs.KernelLemmas
import FloxProofs.Monoid

namespace Flox
namespace Scan

theorem snoc_induction {α : Type} {P : List α → Prop} (hnil : P []) (hsnoc : ∀ l a, P l → P (l ++ [a])) :
    ∀ l, P l := by
  intro l
  have : ∀ r : List α, P r.reverse := by
    intro r
    induction r with
    | nil => exact hnil
    | cons a r ih => simpa using hsnoc _ a ih
  simpa using this l.reverse

theorem keys_zip {α} (ks : List Int) (xs : List α) (h : xs.length = ks.length) : keys (ks.zip xs) = ks :=
  List.map_fst_zip (by omega)

theorem vals_zip (ks : List Int) (xs : List Val) (h : xs.length = ks.length) : vals (ks.zip xs) = xs :=
  List.map_snd_zip (by omega)

theorem keys_length {α} (l : List (Int × α)) : (keys l).length = l.length := by simp [keys]

theorem keys_append {α} (a b : List (Int × α)) : keys (a ++ b) = keys a ++ keys b := by simp [keys]

@[simp] theorem mem_nil (g : Int) : mem g [] = [] := rfl

theorem mem_append (g : Int) (a b : AA) : mem g (a ++ b) = mem g a ++ mem g b := by
  simp [mem]

theorem mem_cons (g : Int) (p : Int × Val) (l : AA) :
    mem g (p :: l) = if p.1 = g then p.2 :: mem g l else mem g l := by
  by_cases h : p.1 = g <;> simp [mem, h]

theorem mem_singleton (g : Int) (p : Int × Val) : mem g [p] = if p.1 = g then [p.2] else [] := by
  rw [mem_cons]; simp

theorem mem_mem_iff (g : Int) (v : Val) (l : AA) : v ∈ mem g l ↔ (g, v) ∈ l := by
  simp only [mem, List.mem_map, List.mem_filter, beq_iff_eq]
  constructor
  · rintro ⟨p, ⟨hp, rfl⟩, rfl⟩; exact hp
  · intro h; exact ⟨(g, v), ⟨h, rfl⟩, rfl⟩

theorem mem_eq_nil_of_not_mem_keys (g : Int) (l : AA) (h : g ∉ keys l) : mem g l = [] := by
  rw [List.eq_nil_iff_forall_not_mem]
  intro v hv
  exact h (List.mem_map.mpr ⟨(g, v), (mem_mem_iff g v l).mp hv, rfl⟩)

theorem mem_map_vals (g : Int) (l : AA) (ψ : Int → Val → Val) :
    mem g (l.map fun p => (p.1, ψ p.1 p.2)) = (mem g l).map (ψ g) := by
  induction l with
  | nil => rfl
  | cons p l ih =>
    rw [List.map_cons, mem_cons, mem_cons, ih]
    by_cases hp : p.1 = g
    · subst hp; simp
    · simp [hp]

/-- combine the carried value of a prefix with the carried value of what follows -/
def comb : Func → Val → Val → Val
  | .nancumsum, a, b => Val.add a b
  | _, a, b => if b.isNaN then a else b

theorem step_fill (f : Func) (hf : f ≠ .nancumsum) (c v : Val) : step f c v = if v.isNaN then c else v := by
  cases f <;> simp_all [step]

theorem comb_fill (f : Func) (hf : f ≠ .nancumsum) (a b : Val) : comb f a b = if b.isNaN then a else b := by
  cases f <;> simp_all [comb]

theorem init_fill (f : Func) (hf : f ≠ .nancumsum) : init f = Val.nan := by
  cases f <;> simp_all [init]

theorem step_init_fill (f : Func) (hf : f ≠ .nancumsum) (v : Val) : step f (init f) v = v := by
  rw [step_fill f hf, init_fill f hf]
  by_cases hv : v.isNaN = true
  · rw [if_pos hv, (Val.isNaN_iff v).mp hv]
  · rw [if_neg hv]

theorem comb_mon (f : Func) : Mon (comb f) (init f) where
  assoc a b c := by
    cases f
    · exact Val.add_assoc a b c
    all_goals
      simp only [comb]
      by_cases hc : c.isNaN = true <;> simp [hc]
  id_left b := by
    cases f
    · exact Val.add_zero_left b
    all_goals
      simp only [comb, init]
      by_cases hb : b.isNaN = true
      · rw [if_pos hb, (Val.isNaN_iff b).mp hb]
      · rw [if_neg hb]
  id_right a := by cases f <;> simp [comb, init, Val.add_zero_right]

theorem step_eq_comb (f : Func) (a v : Val) : step f a v = comb f a (step f (init f) v) := by
  cases f
  · simp only [step, comb, init, Val.add_zero_left]
  all_goals
    simp only [step, comb, init]
    by_cases hv : v.isNaN = true <;> simp [hv]

@[simp] theorem scanLast_nil (f : Func) : scanLast f [] = init f := rfl

theorem scanLast_append_foldl (f : Func) (a b : List Val) :
    scanLast f (a ++ b) = b.foldl (step f) (scanLast f a) :=
  List.foldl_append

theorem scanLast_snoc (f : Func) (a : List Val) (v : Val) :
    scanLast f (a ++ [v]) = step f (scanLast f a) v :=
  scanLast_append_foldl f a [v]

theorem foldl_step (f : Func) (a : Val) (ms : List Val) :
    ms.foldl (step f) a = comb f a (scanLast f ms) := by
  have hmap : ∀ b, ms.foldl (step f) b = (ms.map (step f (init f))).foldl (comb f) b := fun b => by
    rw [List.foldl_map]
    exact congrArg (fun op => ms.foldl op b) (funext fun c => funext fun v => step_eq_comb f c v)
  rw [scanLast, hmap, hmap, (comb_mon f).foldl_eq]

theorem scanLast_append (f : Func) (a b : List Val) :
    scanLast f (a ++ b) = comb f (scanLast f a) (scanLast f b) := by
  rw [scanLast_append_foldl, foldl_step]

/-- the closed forms used by flox's per-block reductions -/
theorem scanLast_nancumsum (ms : List Val) : scanLast .nancumsum ms = kEval .nansum ms := by
  show scanLast .nancumsum ms = vsum (dropNaN ms)
  induction ms using snoc_induction with
  | hnil => rfl
  | hsnoc r v ih =>
    rw [scanLast_snoc, ih]
    by_cases hv : v.isNaN
    · simp [step, hv, dropNaN, Val.add_zero_right]
    · simp [step, hv, dropNaN, vsum, List.foldl_append]

theorem firstNonNaN_append (a b : List Val) :
    firstNonNaN (a ++ b) = if (firstNonNaN a).isNaN then firstNonNaN b else firstNonNaN a :=
  Flox.firstNonNaN_append a b

theorem scanLast_fill (f : Func) (hf : f ≠ .nancumsum) (ms : List Val) : scanLast f ms = lastNonNaN ms := by
  induction ms using snoc_induction with
  | hnil => simp [lastNonNaN, init_fill f hf]
  | hsnoc r v ih =>
    rw [scanLast_snoc, ih, step_fill f hf]
    simp only [lastNonNaN, List.reverse_append, List.reverse_cons, List.reverse_nil, List.nil_append,
      List.singleton_append, firstNonNaN]

/-- a fill is idempotent -/
theorem foldl_scanFrom_fill (f : Func) (hf : f ≠ .nancumsum) (c : Val) (ms : List Val) :
    (scanFrom f c ms).foldl (step f) c = ms.foldl (step f) c := by
  induction ms generalizing c with
  | nil => rfl
  | cons v r ih =>
    have hidem : step f c (step f c v) = step f c v := by
      simp only [step_fill f hf]
      by_cases hv : v.isNaN = true <;> simp [hv]
    rw [scanFrom, List.foldl_cons, List.foldl_cons, hidem, ih]

/-- two histories that leave every group in the same state -/
def SEq (f : Func) (a b : AA) : Prop := ∀ g, scanLast f (mem g a) = scanLast f (mem g b)

theorem SEq.refl (f : Func) (a : AA) : SEq f a a := fun _ => rfl

theorem SEq.symm {f : Func} {a b : AA} (h1 : SEq f a b) : SEq f b a := fun g => (h1 g).symm

theorem SEq.trans {f : Func} {a b c : AA} (h1 : SEq f a b) (h2 : SEq f b c) : SEq f a c :=
  fun g => (h1 g).trans (h2 g)

theorem SEq.append {f : Func} {a b c d : AA} (h1 : SEq f a b) (h2 : SEq f c d) : SEq f (a ++ c) (b ++ d) := by
  intro g
  rw [mem_append, mem_append, scanLast_append, scanLast_append, h1 g, h2 g]

@[simp] theorem groupedScanFrom_nil (f : Func) (pre : AA) : groupedScanFrom f pre [] = [] := rfl

theorem groupedScanFrom_cons (f : Func) (pre : AA) (p : Int × Val) (r : AA) :
    groupedScanFrom f pre (p :: r) =
      step f (scanLast f (mem p.1 pre)) p.2 :: groupedScanFrom f (pre ++ [p]) r := by
  rw [groupedScanFrom, scanLast_snoc]

theorem scanLast_mem_snoc (f : Func) (g : Int) (pre : AA) (p : Int × Val) :
    scanLast f (mem g (pre ++ [p])) =
      if p.1 = g then step f (scanLast f (mem g pre)) p.2 else scanLast f (mem g pre) := by
  rw [mem_append, mem_singleton]
  by_cases hp : p.1 = g
  · rw [if_pos hp, if_pos hp, scanLast_snoc]
  · rw [if_neg hp, if_neg hp, List.append_nil]

theorem groupedScanFrom_length (f : Func) (pre l : AA) : (groupedScanFrom f pre l).length = l.length := by
  induction l generalizing pre with
  | nil => rfl
  | cons p r ih => rw [groupedScanFrom_cons, List.length_cons, List.length_cons, ih]

theorem groupedScan_length (f : Func) (l : AA) : (groupedScan f l).length = l.length :=
  groupedScanFrom_length f [] l

theorem groupedScanFrom_append (f : Func) (pre a b : AA) :
    groupedScanFrom f pre (a ++ b) = groupedScanFrom f pre a ++ groupedScanFrom f (pre ++ a) b := by
  induction a generalizing pre with
  | nil => rw [List.nil_append, groupedScanFrom_nil, List.nil_append, List.append_nil]
  | cons p r ih =>
    rw [List.cons_append, groupedScanFrom_cons, groupedScanFrom_cons, ih, List.cons_append, List.append_assoc,
      List.singleton_append]

theorem groupedScan_append (f : Func) (a b : AA) :
    groupedScan f (a ++ b) = groupedScan f a ++ groupedScanFrom f a b := by
  simp [groupedScan, groupedScanFrom_append]

theorem groupedScanFrom_congr_on (f : Func) (pre pre' l : AA)
    (h : ∀ g ∈ keys l, scanLast f (mem g pre) = scanLast f (mem g pre')) :
    groupedScanFrom f pre l = groupedScanFrom f pre' l := by
  induction l generalizing pre pre' with
  | nil => rfl
  | cons p r ih =>
    rw [groupedScanFrom_cons, groupedScanFrom_cons, h p.1 List.mem_cons_self]
    congr 1
    apply ih
    intro g hg
    rw [scanLast_mem_snoc, scanLast_mem_snoc, h g (List.mem_cons_of_mem _ hg)]

theorem groupedScanFrom_congr (f : Func) (pre pre' l : AA) (h : SEq f pre pre') :
    groupedScanFrom f pre l = groupedScanFrom f pre' l :=
  groupedScanFrom_congr_on f pre pre' l fun g _ => h g

theorem groupedScanFrom_members (f : Func) (pre l : AA) (g : Int) :
    mem g ((keys l).zip (groupedScanFrom f pre l)) = scanFrom f (scanLast f (mem g pre)) (mem g l) := by
  induction l generalizing pre with
  | nil => rfl
  | cons p r ih =>
    rw [groupedScanFrom_cons, keys, List.map_cons, List.zip_cons_cons, mem_cons, mem_cons]
    have ih' := ih (pre ++ [p])
    rw [keys, scanLast_mem_snoc] at ih'
    by_cases hp : p.1 = g
    · subst hp; simp only [if_true] at ih' ⊢; rw [ih', scanFrom]
    · simp only [if_neg hp] at ih' ⊢; exact ih'

end Scan
end Flox
