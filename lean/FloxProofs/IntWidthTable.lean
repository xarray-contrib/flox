/-
  C20 (second sentence) — the width model meets the regenerated dtype table: for integer (or bool) input and no `dtype=`
  every dtype in which `_initialize_aggregation` lets a total be accumulated (eager: `dtype["numpy"]` of sum / prod /
  mean / var …; chunked: the `dtype["intermediate"]` of every sum, product, sum of squares and count kernel) is int64
  (uint64 for unsigned input) or float64 – never the narrow input dtype.  With `cast_first_exact_all_plans` the integer
  ones give the exact total whenever `Σ|x_i| < 2^63` resp. `Π|x_i| < 2^63` (unsigned: the total is below `2^64`).
  (`FloxProps/C11.intermediates_wide_enough` states the width of the sum-like intermediates from C11's own pass; the
  count kernels and the signedness are one more kernel-checked pass over the table here.)
-/
import FloxProofs.Dtype
import FloxProofs.IntWidth

namespace Flox.IntWidth
open Flox Flox.Generated Flox.DtypeProofs

/-- (signed, bits) of an integer dtype -/
def intBits? : DType → Option (Bool × Nat)
  | .i8 => some (true, 8) | .i16 => some (true, 16) | .i32 => some (true, 32) | .i64 => some (true, 64)
  | .u8 => some (false, 8) | .u16 => some (false, 16) | .u32 => some (false, 32) | .u64 => some (false, 64)
  | _ => none

/-- `intBits?` is NumPy's range (`DType.range?` is checked against `np.iinfo` by the translator tables of C11) -/
theorem intBits_range (t : DType) (s : Bool) (w : Nat) (h : intBits? t = some (s, w)) :
    t.range? = some (if s then (-((2 ^ (w - 1) : Nat) : Int), ((2 ^ (w - 1) : Nat) : Int) - 1) else (0, ((2 ^ w : Nat) : Int) - 1)) := by
  cases t <;> simp [intBits?] at h <;> obtain ⟨rfl, rfl⟩ := h <;> decide

def countKernel (s : String) : Bool := s == "nanlen" || s == "len"

/-- chunk kernels that accumulate a total over the members -/
def accumulating (s : String) : Bool := sumLike s || countKernel s

/-- what the table may say for input dtype `d`: counts in int64; totals in int64 (signed / bool input), uint64 (unsigned
    input) or float64 (a floating reduction, or a fill that forces a floating result) -/
def accOk (d : DType) (p : String × DType) : Bool :=
  if countKernel p.1 then p.2 == .i64
  else p.2 == .f64 || (if d.isUnsigned then p.2 == .u64 else p.2 == .i64)

/-- the dtypes in which a row accumulates: the accumulating intermediates, and the eager kernel's dtype -/
def rowAccDtypes (f : Func) (init : DInit) : List DType :=
  (init.inter.filter fun p => accumulating p.1).map (·.2) ++ (if accumulates f then init.numpy.take 1 else [])

def accRowOk (f : Func) (d : DType) (res : Option DInit) : Bool :=
  match res with
  | none => true
  | some init =>
    (init.inter.all fun p => !(accumulating p.1) || accOk d p) &&
    (!(accumulates f) || (init.numpy.take 1).all fun t => accOk d ("", t))

/-- one kernel-checked pass over the rows for integer / bool input without `dtype=` -/
theorem accRows_ok :
    (Func.all.all fun f => DType.inputs.all fun d =>
      !(intInput d) || (cellRows f d .unset).all fun r => accRowOk f d r.res) = true := by decide +kernel

private theorem accOk_width {d : DType} {p : String × DType} (h : accOk d p = true) {s : Bool} {w : Nat}
    (hb : intBits? p.2 = some (s, w)) : w = 64 := by
  obtain ⟨n, t⟩ := p
  cases t <;> simp [intBits?] at hb <;> first | exact hb.2.symm | simp [accOk] at h

/-- the accumulation dtypes of the table are 64 bits wide: for every reduction, every integer / bool input dtype,
    every fill, `min_count`, engine – whenever such a dtype is an integer dtype at all.  (`accRows_ok` also checks that
    it is as signed as the input; the statement does not say so.) -/
theorem table_accumulators_64bit (f : Func) (d : DType) (k : FillK) (mc e : Bool) (init : DInit)
    (hd : d = .bool ∨ d.isInt = true) (h : apiInit dtypeRowsOf f d .unset k mc e = some init) :
    ∀ t ∈ rowAccDtypes f init, ∀ s w, intBits? t = some (s, w) → w = 64 := by
  obtain ⟨r, hr, hres⟩ := Option.bind_eq_some_iff.mp (apiInit_eq .. ▸ apiInit_engine .. ▸ h)
  have hall := accRows_ok
  simp only [List.all_eq_true, not_or_eq_true_iff] at hall
  have hc := hres ▸ hall f (func_mem f) d (input_mem (ne_obj_of_int hd)) (intInput_of hd) r (List.mem_of_find?_eq_some hr)
  simp only [accRowOk, Bool.and_eq_true, List.all_eq_true, not_or_eq_true_iff] at hc
  intro t ht s w hb
  simp only [rowAccDtypes, List.mem_append, List.mem_map, List.mem_filter] at ht
  rcases ht with ⟨p, ⟨hp, hacc⟩, rfl⟩ | ht
  · exact accOk_width (hc.1 p hp hacc) hb
  · by_cases ha : accumulates f = true
    · simp only [ha, if_true] at ht
      exact accOk_width (hc.2 ha t ht) hb
    · simp [ha] at ht

/-- tie of the width model to the table: in whichever integer dtype a row of the table accumulates, sums and
    products of integer data are exact on the eager engines and for every chunking / order / tree as soon as
    `Σ|x_i| < 2^63` resp. `Π|x_i| < 2^63` (unsigned accumulator: the total is below `2^64`).  `wIn` is inert:
    with `castFirst = true` the input wrap is never applied. -/
theorem table_sum_prod_exact (f : Func) (d : DType) (k : FillK) (mc e : Bool) (init : DInit)
    (hd : d = .bool ∨ d.isInt = true) (h : apiInit dtypeRowsOf f d .unset k mc e = some init)
    (t : DType) (ht : t ∈ rowAccDtypes f init) (wIn : Nat) (xs : List Int) :
    (∀ w, intBits? t = some (true, w) →
      (absSum xs < 2 ^ 63 →
        engineSum true wIn w xs = xs.sum ∧ ∀ tr : WTree, tr.leaves.Perm xs → chunkedSum true wIn w tr = xs.sum) ∧
      (absProd xs < 2 ^ 63 →
        engineProd true wIn w xs = xs.prod ∧ ∀ tr : WTree, tr.leaves.Perm xs → chunkedProd true wIn w tr = xs.prod)) ∧
    (∀ w, intBits? t = some (false, w) →
      (inU 64 xs.sum →
        engineSumU true wIn w xs = xs.sum ∧ ∀ tr : WTree, tr.leaves.Perm xs → chunkedSumU true wIn w tr = xs.sum) ∧
      (inU 64 xs.prod →
        engineProdU true wIn w xs = xs.prod ∧
          ∀ tr : WTree, tr.leaves.Perm xs → chunkedProdU true wIn w tr = xs.prod)) := by
  refine ⟨fun w hb => ?_, fun w hb => ?_⟩
  · obtain rfl := table_accumulators_64bit f d k mc e init hd h t ht _ _ hb
    exact ⟨cast_first_exact_all_plans (wAcc := 64) (by decide) wIn xs,
      cast_first_prod_exact_all_plans (wAcc := 64) (by decide) wIn xs⟩
  · obtain rfl := table_accumulators_64bit f d k mc e init hd h t ht _ _ hb
    exact ⟨sumU_exact_of_total_bound wIn 64 xs, cast_first_prodU_exact_all_plans (wAcc := 64) (by decide) wIn xs⟩

end Flox.IntWidth
