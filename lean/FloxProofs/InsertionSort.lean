/-
  Insertion sort by a decidable total preorder.  The result is a sorted permutation; sorting commutes with
  `filter` (this is stability: every sub-list keeps its order, and is itself sorted) and with order embeddings;
  a sorted list splits into zones at down-closed predicates, and sortedness is decided on adjacent pairs.  The
  model's insertion sorts by a total preorder are instances (grep `_eq_isort`).
-/
namespace Flox

structure TotalPreorder {α : Type} (le : α → α → Prop) : Prop where
  total : ∀ a b, le a b ∨ le b a
  trans : ∀ {a b c}, le a b → le b c → le a c

def LexLe {α β : Type} (le₁ : α → α → Prop) (le₂ : β → β → Prop) (a b : α × β) : Prop :=
  le₁ a.1 b.1 ∧ (le₁ b.1 a.1 → le₂ a.2 b.2)

namespace TotalPreorder
variable {α β : Type} {le : α → α → Prop} {le₁ : α → α → Prop} {le₂ : β → β → Prop}

theorem comap {le' : β → β → Prop} (h : TotalPreorder le) (f : β → α) (hf : ∀ a b, le' a b ↔ le (f a) (f b)) :
    TotalPreorder le' :=
  ⟨fun a b => (h.total (f a) (f b)).imp (hf a b).mpr (hf b a).mpr,
    fun h₁ h₂ => (hf _ _).mpr (h.trans ((hf _ _).mp h₁) ((hf _ _).mp h₂))⟩

theorem lex (h₁ : TotalPreorder le₁) (h₂ : TotalPreorder le₂) : TotalPreorder (LexLe le₁ le₂) where
  total a b := by
    by_cases hab : le₁ a.1 b.1
    · by_cases hba : le₁ b.1 a.1
      · exact (h₂.total a.2 b.2).imp (fun h => ⟨hab, fun _ => h⟩) (fun h => ⟨hba, fun _ => h⟩)
      · exact .inl ⟨hab, fun h => absurd h hba⟩
    · exact .inr ⟨(h₁.total _ _).resolve_left hab, fun h => absurd h hab⟩
  trans := fun ⟨hab, hab'⟩ ⟨hbc, hbc'⟩ =>
    ⟨h₁.trans hab hbc, fun hca => h₂.trans (hab' (h₁.trans hbc hca)) (hbc' (h₁.trans hca hab))⟩

theorem int : TotalPreorder (fun a b : Int => a ≤ b) := ⟨Int.le_total, Int.le_trans⟩
theorem rat : TotalPreorder (fun a b : Rat => a ≤ b) := ⟨fun _ _ => Rat.le_total, Rat.le_trans⟩
theorem bool : TotalPreorder (fun a b : Bool => a = true → b = true) :=
  ⟨by decide, fun h₁ h₂ h => h₂ (h₁ h)⟩

end TotalPreorder

section sort
variable {α : Type} (le : α → α → Prop) [DecidableRel le]

def insertBy (x : α) : List α → List α
  | [] => [x]
  | y :: ys => if le x y then x :: y :: ys else y :: insertBy x ys

def isort : List α → List α
  | [] => []
  | x :: xs => insertBy le x (isort xs)

theorem insertBy_cons (x y : α) (ys : List α) :
    insertBy le x (y :: ys) = if le x y then x :: y :: ys else y :: insertBy le x ys := rfl

theorem insertBy_perm (x : α) : ∀ l, (insertBy le x l).Perm (x :: l)
  | [] => .refl _
  | y :: ys => by
    rw [insertBy_cons]
    split
    · exact .refl _
    · exact ((insertBy_perm x ys).cons y).trans (.swap x y ys)

theorem isort_perm : ∀ l, (isort le l).Perm l
  | [] => .refl _
  | x :: xs => (insertBy_perm le x _).trans ((isort_perm xs).cons x)

variable {le}

theorem insertBy_eq_cons {x : α} : ∀ {l}, (∀ z ∈ l, le x z) → insertBy le x l = x :: l
  | [], _ => rfl
  | y :: _, h => by rw [insertBy_cons, if_pos (h y (by simp))]

theorem isort_eq_self : ∀ {l}, l.Pairwise le → isort le l = l
  | [], _ => rfl
  | x :: xs, h => by
    have ⟨hx, hxs⟩ := List.pairwise_cons.mp h
    rw [isort, isort_eq_self hxs, insertBy_eq_cons hx]

theorem insertBy_sorted (h : TotalPreorder le) (x : α) : ∀ {l}, l.Pairwise le → (insertBy le x l).Pairwise le
  | [], _ => by simp [insertBy]
  | y :: ys, hs => by
    have ⟨hy, hys⟩ := List.pairwise_cons.mp hs
    rw [insertBy_cons]
    split
    · next hxy =>
      refine List.pairwise_cons.mpr ⟨fun a ha => ?_, hs⟩
      rcases List.mem_cons.mp ha with rfl | ha
      · exact hxy
      · exact h.trans hxy (hy a ha)
    · next hxy =>
      refine List.pairwise_cons.mpr ⟨fun a ha => ?_, insertBy_sorted h x hys⟩
      rcases List.mem_cons.mp ((insertBy_perm le x ys).mem_iff.mp ha) with rfl | ha
      · exact (h.total a y).resolve_left hxy
      · exact hy a ha

theorem isort_sorted (h : TotalPreorder le) : ∀ l, (isort le l).Pairwise le
  | [] => .nil
  | x :: xs => insertBy_sorted h x (isort_sorted h xs)

theorem filter_insertBy (h : TotalPreorder le) (c : α → Bool) (x : α) :
    ∀ {l}, l.Pairwise le →
      (insertBy le x l).filter c = if c x then insertBy le x (l.filter c) else l.filter c
  | [], _ => by cases hx : c x <;> simp [insertBy, hx]
  | y :: ys, hs => by
    have ⟨hy, hys⟩ := List.pairwise_cons.mp hs
    rw [insertBy_cons]
    split
    · next hxy =>
      have hle : ∀ z ∈ (y :: ys).filter c, le x z := fun z hz => by
        rcases List.mem_cons.mp (List.mem_filter.mp hz).1 with rfl | hz'
        · exact hxy
        · exact h.trans hxy (hy z hz')
      rw [insertBy_eq_cons hle, List.filter_cons]
    · next hxy =>
      rw [List.filter_cons, filter_insertBy h c x hys, List.filter_cons]
      cases c x <;> cases c y <;> simp [insertBy_cons, hxy]

theorem filter_isort (h : TotalPreorder le) (c : α → Bool) : ∀ l, (isort le l).filter c = isort le (l.filter c)
  | [] => rfl
  | x :: xs => by
    rw [isort, filter_insertBy h c x (isort_sorted h xs), filter_isort h c xs, List.filter_cons]
    split <;> rfl

theorem map_insertBy {β : Type} {le' : β → β → Prop} [DecidableRel le'] (f : α → β)
    (hf : ∀ a b, le' (f a) (f b) ↔ le a b) (x : α) :
    ∀ l, insertBy le' (f x) (l.map f) = (insertBy le x l).map f
  | [] => rfl
  | y :: ys => by
    simp only [List.map_cons, insertBy_cons, hf, map_insertBy f hf x ys]
    split <;> rfl

theorem map_isort {β : Type} {le' : β → β → Prop} [DecidableRel le'] (f : α → β)
    (hf : ∀ a b, le' (f a) (f b) ↔ le a b) : ∀ l, isort le' (l.map f) = (isort le l).map f
  | [] => rfl
  | x :: xs => by rw [List.map_cons, isort, map_isort f hf xs, map_insertBy f hf, isort]

end sort

section split
variable {α : Type} {le : α → α → Prop}

theorem sorted_split (p : α → Bool) (hp : ∀ x y, le x y → p y = true → p x = true) :
    ∀ {l : List α}, l.Pairwise le → l = l.filter p ++ l.filter (fun x => !p x)
  | [], _ => rfl
  | x :: xs, h => by
    have ⟨hx, hxs⟩ := List.pairwise_cons.mp h
    cases hpx : p x
    · have hnone : ∀ a ∈ xs, p a = false := fun a ha => by
        cases hpa : p a
        · rfl
        · rw [hp x a (hx a ha) hpa] at hpx; contradiction
      have h1 : xs.filter p = [] := List.filter_eq_nil_iff.mpr (by simpa using hnone)
      have h2 : xs.filter (fun x => !p x) = xs := List.filter_eq_self.mpr (by simpa using hnone)
      simp [hpx, h1, h2]
    · simp only [List.filter_cons, hpx]
      exact congrArg _ (sorted_split p hp hxs)

theorem sorted_split3 (p q : α → Bool) (hp : ∀ x y, le x y → p y = true → p x = true)
    (hq : ∀ x y, le x y → q y = true → q x = true) (hpq : ∀ x, p x = true → q x = true)
    {l : List α} (h : l.Pairwise le) :
    l = l.filter p ++ (l.filter (fun x => !p x && q x) ++ l.filter (fun x => !q x)) := by
  have h2 := sorted_split p hp (h.filter q)
  rw [List.filter_filter, List.filter_filter] at h2
  have e : l.filter (fun x => p x && q x) = l.filter p :=
    List.filter_congr fun x _ => by cases hx : p x <;> simp [hpq x, hx]
  rw [e] at h2
  rw [← List.append_assoc, ← h2]
  exact sorted_split q hq h

end split

/-- `f` is the model's `isSortedKeys` (`EngineFlox`, `Scan`) -/
theorem adjacent_iff_pairwise {α} {le : α → α → Prop} [DecidableRel le] (htrans : ∀ {a b c}, le a b → le b c → le a c)
    {f : List α → Bool} (h0 : f [] = true) (h1 : ∀ p, f [p] = true)
    (h2 : ∀ p q r, f (p :: q :: r) = (decide (le p q) && f (q :: r))) : ∀ l, f l = true ↔ l.Pairwise le
  | [] => by simp [h0]
  | [_] => by simp [h1]
  | p :: q :: rest => by
    rw [h2, Bool.and_eq_true, decide_eq_true_eq, adjacent_iff_pairwise @htrans h0 h1 h2 (q :: rest),
      List.pairwise_cons (a := p)]
    constructor
    · rintro ⟨hpq, hs⟩
      refine ⟨fun a ha => ?_, hs⟩
      rcases List.mem_cons.mp ha with rfl | ha
      · exact hpq
      · exact htrans hpq ((List.pairwise_cons.mp hs).1 a ha)
    · rintro ⟨h, hs⟩
      exact ⟨h q (List.mem_cons_self ..), hs⟩

theorem inj_of_nodup_map {α β} {f : α → β} {l : List α} (hnd : (l.map f).Nodup) :
    ∀ ⦃a⦄, a ∈ l → ∀ ⦃b⦄, b ∈ l → f a = f b → a = b := by
  have h := List.pairwise_map.mp hnd
  exact List.Pairwise.forall_of_forall_of_flip (R := fun a b => f a = f b → a = b) (fun _ _ _ => rfl)
    (h.imp fun hne heq => absurd heq hne) (h.imp fun hne heq => absurd heq.symm hne)

/-- the model's sorted insert without duplicates exists at several types (`insertSorted`, `Rechunk.insertSorted`,
    `Rechunk.insertSortedInt`, `Scan.insertUniq`); `ins` is any function with their defining equations -/
theorem mem_insert_of_eqns {α} [DecidableEq α] {lt : α → α → Prop} [DecidableRel lt] {ins : α → List α → List α}
    (hnil : ∀ x, ins x [] = [x])
    (hcons : ∀ x y ys, ins x (y :: ys) = if lt x y then x :: y :: ys else if x = y then y :: ys else y :: ins x ys)
    (v x : α) (ys : List α) : v ∈ ins x ys ↔ v = x ∨ v ∈ ys := by
  induction ys with
  | nil => rw [hnil, List.mem_singleton, List.mem_nil_iff, or_false]
  | cons y ys ih =>
    rw [hcons]
    split
    · simp
    · split
      · rename_i h; subst h; simp
      · simp only [List.mem_cons, ih, or_left_comm]

theorem pairwise_insert_of_eqns {α} [DecidableEq α] {lt : α → α → Prop} [DecidableRel lt] {ins : α → List α → List α}
    (hnil : ∀ x, ins x [] = [x])
    (hcons : ∀ x y ys, ins x (y :: ys) = if lt x y then x :: y :: ys else if x = y then y :: ys else y :: ins x ys)
    (htrans : ∀ {a b c}, lt a b → lt b c → lt a c) (hconn : ∀ {a b}, ¬ lt a b → a ≠ b → lt b a) (x : α) :
    ∀ {ys : List α}, ys.Pairwise lt → (ins x ys).Pairwise lt
  | [], _ => by rw [hnil]; exact List.pairwise_singleton _ _
  | y :: ys, h => by
    have ⟨hy, hys⟩ := List.pairwise_cons.mp h
    rw [hcons]
    split
    · next hxy =>
      refine List.pairwise_cons.mpr ⟨fun a ha => ?_, h⟩
      rcases List.mem_cons.mp ha with rfl | ha
      · exact hxy
      · exact htrans hxy (hy a ha)
    · split
      · exact h
      · next hxy hne =>
        refine List.pairwise_cons.mpr ⟨fun a ha => ?_, pairwise_insert_of_eqns hnil hcons htrans hconn x hys⟩
        rcases (mem_insert_of_eqns hnil hcons a x ys).mp ha with rfl | ha
        · exact hconn hxy hne
        · exact hy a ha

theorem mem_foldr_insert {α} {ins : α → List α → List α} (hins : ∀ v x ys, v ∈ ins x ys ↔ v = x ∨ v ∈ ys)
    (v : α) (xs : List α) : v ∈ xs.foldr ins [] ↔ v ∈ xs := by
  induction xs with
  | nil => rfl
  | cons x xs ih => rw [List.foldr_cons, hins, ih, List.mem_cons]

end Flox
