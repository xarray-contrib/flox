/-
  The registry tie of C04: every built-in blueprint of the live `flox.aggregations.AGGREGATIONS`
  (`Generated.registry`, regenerated on every run) that has a chunk function is one of the proven families, and
  `_initialize_aggregation` (`Generated.initRows`) resolves its sentinel fills to the values the proofs use.

  Families (each with its law):
  * `column k c f`   – one intermediate column, no finalizer; law `combine_parts` (`(k, c, f) ∈ floatColumns`),
  * `mean nan`       – `(sum|nansum, nanlen)` combined with `(sum, sum)`, fills `(0, 0)`, `_mean_finalize`;
                       laws: the two column laws + `mean_finalize` / `nanmean_finalize`,
  * `var nan std`    – `(sum_of_squares, sum, nanlen)` (or the nan-variants) / `(sum, sum, sum)` / `(0,0,0)`,
                       `_var_finalize` | `_std_finalize`; laws: three column laws + `var_finalize` / `nanvar_finalize`,
  * `arg k`          – (value, index) pairs combined by the grouped combine, `_pick_second`; pair law,
  * blueprints without a chunk function (`first`, `last`, `median`, `quantile`, `mode`, …) are blockwise-only:
    no combine, no finalizer – nothing to decompose.

  Everything here is evaluated by the kernel (`decide +kernel`) on the generated tables; an edit of a blueprint in
  /repo (combine "sum" → "max", fill 0 → 1, `_var_finalize` → something else, a new aggregation) changes the tables
  and makes these theorems fail to check.
-/
import FloxModel.Generated.Registry
import FloxProofs.InitRowsChunks
import FloxModel.Blueprint
import FloxModel.TimeFills
import FloxModel.Generated.TimeFills

namespace Flox

inductive AggFamily where
  | column (k c : Kernel) (fill : String)
  | mean (nan : Bool)
  | var (nan : Bool) (std : Bool)
  | arg (k : Kernel)
deriving DecidableEq, Repr

/-- registry text of an intermediate fill ↦ what `_get_fill_value` makes of it for a floating dtype -/
def floatFill : String → Option Val
  | "0" => some Val.zero
  | "1" => some Val.one
  | "NINF" => some Val.ninf
  | "INF" => some Val.pinf
  | "NA" => some Val.nan
  | _ => none

/-- the same resolution on the text level (how the resolved fill is printed in `Generated.initRows`) -/
def floatFillText : String → String
  | "NINF" => "-inf"
  | "INF" => "inf"
  | "NA" => "nan"
  | s => s

def Kernel.pyName : Kernel → String
  | .sum => "sum" | .nansum => "nansum" | .prod => "prod" | .nanprod => "nanprod"
  | .max => "max" | .nanmax => "nanmax" | .min => "min" | .nanmin => "nanmin"
  | .nanlen => "nanlen" | .len => "len" | .sumsq => "sum_of_squares" | .nansumsq => "nansum_of_squares"
  | .all => "all" | .any => "any" | .first => "first" | .last => "last"
  | .nanfirst => "nanfirst" | .nanlast => "nanlast" | .mean => "mean" | .nanmean => "nanmean"
  | .var _ => "var" | .nanvar _ => "nanvar"
  | .argmax => "argmax" | .argmin => "argmin" | .nanargmax => "nanargmax" | .nanargmin => "nanargmin"

/-- the declarative core of a blueprint -/
structure Core where
  numpy : List String
  chunk : List String
  combine : List String
  fills : List String
  finalize : String
  reductionType : String
deriving DecidableEq, Repr

def RegistryRow.core (b : RegistryRow) : Core :=
  { numpy := b.numpy, chunk := b.chunk, combine := b.combine, fills := b.fills, finalize := b.finalize,
    reductionType := b.reductionType }

/-- value / index kernels of an arg-reduction blueprint: chunk `(max, argmax)` …, combined with the same pair;
    the NaN-skipping ones are combined with the NaN-skipping kernels and use NaN as the value fill -/
def argValueKernel : Kernel → Kernel
  | .argmax => .max | .argmin => .min | .nanargmax => .nanmax | .nanargmin => .nanmin | k => k

def argValueFill : Kernel → String
  | .argmax => "NINF" | .argmin => "INF" | _ => "NA"

/-- the text a blueprint of the family must have; `key` is the registry key
    (the NumPy-level reduction the family computes) -/
def AggFamily.core (key : String) : AggFamily → Core
  | .column k c f =>
    { numpy := [if key = "count" then "nanlen" else key], chunk := [k.pyName], combine := [c.pyName], fills := [f],
      finalize := "None", reductionType := "reduce" }
  | .mean nan =>
    { numpy := [key], chunk := [if nan then "nansum" else "sum", "nanlen"], combine := ["sum", "sum"],
      fills := ["0", "0"], finalize := "_mean_finalize", reductionType := "reduce" }
  | .var nan std =>
    { numpy := [key],
      chunk := if nan then ["nansum_of_squares", "nansum", "nanlen"] else ["sum_of_squares", "sum", "nanlen"],
      combine := ["sum", "sum", "sum"], fills := ["0", "0", "0"],
      finalize := if std then "_std_finalize" else "_var_finalize", reductionType := "reduce" }
  | .arg k =>
    { numpy := [key], chunk := [(argValueKernel k).pyName, k.pyName],
      combine := [(argValueKernel k).pyName, k.pyName], fills := [argValueFill k, "0"],
      finalize := "_pick_second", reductionType := "argreduce" }

/-- well-formedness = the family's law is available: a column must be one of `floatColumns` and the column's chunk
    kernel must be the NumPy kernel named by the key; an arg family must be one of the four arg kernels -/
def AggFamily.wf (key : String) : AggFamily → Bool
  | .column k c f =>
    (match floatFill f with
      | some v => decide ((k, c, v) ∈ floatColumns)
      | none => false)
    && k.pyName == (if key = "count" then "nanlen" else key)
  | .mean nan => key == (if nan then "nanmean" else "mean")
  | .var nan std => key == (if nan then "nan" else "") ++ (if std then "std" else "var")
  | .arg k => (k == .argmax || k == .argmin || k == .nanargmax || k == .nanargmin) && k.pyName == key

/-- registry key ↦ family -/
def provenBlueprints : List (String × AggFamily) :=
  [ ("any", .column .any .any "0"), ("all", .column .all .all "1"), ("count", .column .nanlen .sum "0"),
    ("sum", .column .sum .sum "0"), ("nansum", .column .nansum .sum "0"),
    ("prod", .column .prod .prod "1"), ("nanprod", .column .nanprod .prod "1"),
    ("mean", .mean false), ("nanmean", .mean true),
    ("var", .var false false), ("nanvar", .var true false), ("std", .var false true), ("nanstd", .var true true),
    ("max", .column .max .max "NINF"), ("nanmax", .column .nanmax .nanmax "NINF"),
    ("min", .column .min .min "INF"), ("nanmin", .column .nanmin .nanmin "INF"),
    ("argmax", .arg .argmax), ("nanargmax", .arg .nanargmax), ("argmin", .arg .argmin), ("nanargmin", .arg .nanargmin),
    ("nanfirst", .column .nanfirst .nanfirst "NA"), ("nanlast", .column .nanlast .nanlast "NA") ]

/-- the finalizers that have a proof (`None` = identity on the single intermediate) -/
def provenFinalizers : List String := ["None", "_mean_finalize", "_var_finalize", "_std_finalize", "_pick_second"]

def hasChunk (b : RegistryRow) : Bool := b.chunk != ["None"]

def blueprintProven (b : RegistryRow) : Bool :=
  if hasChunk b then
    match provenBlueprints.lookup b.key with
    | some fam => fam.wf b.key && decide (b.core = fam.core b.key) && b.name == b.key
        && provenFinalizers.contains b.finalize
    | none => false
  else
    -- blockwise-only blueprints: no combine, no finalizer, no intermediate to decompose
    b.combine == ["None"] && b.finalize == "None" && b.reductionType == "reduce"

/-- count column appended by `_initialize_aggregation` when `min_count > 0` -/
def withCount (l : List String) (x : String) (cnt : Bool) : List String := if cnt then l ++ [x] else l

/-- a float row of the `_initialize_aggregation` table agrees with blueprint `b`: same chunk / combine kernels
    (plus the count column), the sentinel fills resolved to ∓inf / NaN, the same finalizer, and `simple_combine`
    consists of the functions named by `combine` -/
def floatRowMatches (b : RegistryRow) (r : InitRow) : Bool :=
  [false, true].any fun cnt =>
    r.chunk == withCount b.chunk "nanlen" cnt && r.combine == withCount b.combine "sum" cnt
      && r.interFills == withCount (b.fills.map floatFillText) "0" cnt
      && r.simple == r.combine && r.finalize == b.finalize && r.isArg == (b.reductionType == "argreduce")

def floatKinds : List String := ["f8", "f4"]

def floatRowsProven (b : RegistryRow) : Bool :=
  Generated.initRows.all fun r =>
    !(r.func == b.key && floatKinds.contains r.dkind) || (r.ok && floatRowMatches b r)

/-- the number of float rows of a blueprint in the generated table (2 dtypes × 5 fill kinds × 2 `min_count` settings
    when none is missing) -/
def floatRowsCount (b : RegistryRow) : Nat :=
  (Generated.initRows.filter fun r => r.func == b.key && floatKinds.contains r.dkind).length

def dkRange : String → Option (Int × Int)
  | "i8" => some (-9223372036854775808, 9223372036854775807)
  | "i4" => some (-2147483648, 2147483647)
  | "i2" => some (-32768, 32767)
  | "i1" => some (-128, 127)
  | "u1" => some (0, 255)
  | _ => none

/-- the integer fill literals that occur in the table -/
def intLit : String → Option Int
  | "-9223372036854775808" => some (-9223372036854775808)
  | "9223372036854775807" => some 9223372036854775807
  | "-2147483648" => some (-2147483648)
  | "2147483647" => some 2147483647
  | "-32768" => some (-32768)
  | "32767" => some 32767
  | "-128" => some (-128)
  | "127" => some 127
  | "4294967295" => some 4294967295
  | "0" => some 0
  | "255" => some 255
  | _ => none

def maxFamily : List String := ["max", "nanmax"]
def minFamily : List String := ["min", "nanmin"]

/-- the intermediate fill of the value column is −inf or an integer ≤ every value of the array dtype
    (resp. +inf or ≥ every value) -/
def intRowBounded (r : InitRow) : Bool :=
  match dkRange r.dkind, r.interFills.head? with
  | some (lo, hi), some f =>
    if maxFamily.contains r.func then
      f == "-inf" || (match intLit f with | some m => decide (m ≤ lo) | none => false)
    else if minFamily.contains r.func then
      f == "inf" || (match intLit f with | some m => decide (hi ≤ m) | none => false)
    else true
  | none, _ => true
  | _, none => false

/-! The table is taken chunk by chunk (`initChunks`), the rows of floating dtype are collected once, and the tests on
  `func` / `dkind` take the field out of the (literal) row by a `match` first, so that the kernel meets the same closed
  terms (`"sum" == "max"`, …) again and again and reduces each of them only once. -/

theorem registry_all_proven : Generated.registry.all blueprintProven = true := by decide +kernel

def isFloatRow : InitRow → Bool
  | { dkind := dk, .. } => floatKinds.contains dk

def hasFunc (key : String) : InitRow → Bool
  | { func := fn, .. } => fn == key

def intRowOk : InitRow → Bool
  | r@{ func := fn, ok := ok, .. } => !(ok && (maxFamily.contains fn || minFamily.contains fn)) || intRowBounded r

def floatRows : List InitRow := (initChunks.map (List.filter isFloatRow)).flatten

/-- the rows `floatRowsProven b` and `floatRowsCount b` speak of -/
theorem filter_blueprint_rows (key : String) :
    (Generated.initRows.filter fun r => r.func == key && floatKinds.contains r.dkind) = floatRows.filter (hasFunc key) := by
  rw [floatRows, ← List.filter_flatten, ← initRows_eq, List.filter_filter]
  exact List.filter_congr fun r _ => by cases r; rfl

def blueprintRowsOk (b : RegistryRow) : Bool :=
  let rows := floatRows.filter (hasFunc b.key)
  rows.length == 20 && rows.all fun r => r.ok && floatRowMatches b r

theorem registry_tables_check :
    (initChunks.all (·.all intRowOk) && (Generated.registry.filter hasChunk).all blueprintRowsOk) = true := by
  decide +kernel

theorem registry_counts :
    (Generated.registry.filter hasChunk).length = 23 ∧ (Generated.registry.filter (fun b => !hasChunk b)).length = 8 := by
  decide +kernel

end Flox

namespace Flox.TimeFills
open Flox Flox.Generated

/-- the table covers both time dtypes of every reduction of the registry it lists, and is not empty -/
theorem table_shape : timeFillRows.length % 2 = 0 ∧ 40 ≤ timeFillRows.length ∧
    (timeFillRows.filter (·.dkind == "m8")).length = (timeFillRows.filter (·.dkind == "M8")).length := by decide +kernel

end Flox.TimeFills
