/-
  `List.mapM` in the `Option` and `Except ε` monads: the model's slot-by-slot computations are all of this form.
  A `mapM` is decided element by element (`_cons`), succeeds exactly when every element does, and then lists the
  elements' values.
-/

namespace Flox

theorem mapM_congr {m} [Monad m] [LawfulMonad m] {α β} (f g : α → m β) (l : List α) (h : ∀ a ∈ l, f a = g a) :
    l.mapM f = l.mapM g := by
  induction l with
  | nil => rfl
  | cons a l ih =>
    rw [List.mapM_cons, List.mapM_cons, h a (by simp), ih (fun b hb => h b (by simp [hb]))]

/-- core's `List.mapM_map` with the composition written out -/
theorem mapM_map {m} [Monad m] [LawfulMonad m] {α β γ} (g : α → β) (f : β → m γ) (l : List α) :
    (l.map g).mapM f = l.mapM (fun a => f (g a)) :=
  List.mapM_map

theorem mapM_option_cons {α β} (f : α → Option β) (a : α) (l : List α) :
    (a :: l).mapM f = (match f a with
      | none => none
      | some b => match l.mapM f with
        | none => none
        | some bs => some (b :: bs)) := by
  rw [List.mapM_cons]
  cases f a <;> simp
  cases l.mapM f <;> rfl

theorem mapM_option_some {α β} (f : α → Option β) (h : α → β) (l : List α) (hf : ∀ a ∈ l, f a = some (h a)) :
    l.mapM f = some (l.map h) := by
  rw [mapM_congr f (fun a => pure (h a)) l hf]
  exact List.mapM_pure

theorem mapM_option_eq_some_iff {α β} (f : α → Option β) (l : List α) (bs : List β) :
    l.mapM f = some bs ↔ l.map f = bs.map some := by
  induction l generalizing bs with
  | nil => cases bs <;> simp
  | cons a l ih =>
    rw [mapM_option_cons]
    cases bs with
    | nil => cases f a <;> cases l.mapM f <;> simp
    | cons b bs =>
      rw [List.map_cons, List.map_cons, List.cons.injEq, ← ih bs]
      cases f a <;> cases l.mapM f <;> simp

theorem mapM_option_eq_none_iff {α β} (f : α → Option β) (l : List α) :
    l.mapM f = none ↔ ∃ a ∈ l, f a = none := by
  induction l with
  | nil => simp
  | cons a l ih =>
    have hex : (∃ x ∈ a :: l, f x = none) ↔ f a = none ∨ l.mapM f = none := by simp [ih]
    rw [mapM_option_cons, hex]
    cases f a <;> cases l.mapM f <;> simp

theorem mapM_option_length {α β} (f : α → Option β) (l : List α) (bs : List β) (h : l.mapM f = some bs) :
    bs.length = l.length := by
  simpa using (congrArg List.length ((mapM_option_eq_some_iff f l bs).mp h)).symm

theorem mapM_option_getElem? {α β} (f : α → Option β) (l : List α) (bs : List β) (h : l.mapM f = some bs)
    (i : Nat) (hi : i < l.length) : bs[i]? = f l[i] := by
  have h2 := congrArg (·[i]?) ((mapM_option_eq_some_iff f l bs).mp h)
  simp only [List.getElem?_map, List.getElem?_eq_getElem hi, Option.map_some] at h2
  cases hb : bs[i]? with
  | none => rw [hb] at h2; cases h2
  | some b => rw [hb] at h2; simpa using h2.symm

theorem mapM_option_transfer {α β γ} (f : α → Option β) (g : α → Option γ) (φ : β → γ)
    (h : ∀ a b, f a = some b → g a = some (φ b)) (l : List α) (bs : List β) (hl : l.mapM f = some bs) :
    l.mapM g = some (bs.map φ) := by
  rw [mapM_option_eq_some_iff] at hl ⊢
  induction l generalizing bs with
  | nil => cases bs <;> simp_all
  | cons a l ih =>
    cases bs with
    | nil => simp at hl
    | cons b bs =>
      simp only [List.map_cons, List.cons.injEq] at hl ⊢
      exact ⟨h a b hl.1, ih bs hl.2⟩

theorem mapM_except_cons {ε α β} (f : α → Except ε β) (a : α) (l : List α) :
    (a :: l).mapM f = (match f a with
      | .error e => .error e
      | .ok b => match l.mapM f with
        | .error e => .error e
        | .ok bs => .ok (b :: bs)) := by
  rw [List.mapM_cons]
  cases f a <;> simp [bind, Except.bind, pure, Except.pure]
  cases l.mapM f <;> rfl

theorem mapM_except_ok {ε α β} (f : α → Except ε β) (h : α → β) (l : List α) (hf : ∀ a ∈ l, f a = .ok (h a)) :
    l.mapM f = .ok (l.map h) := by
  rw [mapM_congr f (fun a => pure (h a)) l hf]
  exact List.mapM_pure

theorem mapM_except_eq_ok_iff {ε α β} (f : α → Except ε β) (l : List α) (bs : List β) :
    l.mapM f = .ok bs ↔ l.map f = bs.map .ok := by
  induction l generalizing bs with
  | nil => cases bs <;> simp [pure, Except.pure]
  | cons a l ih =>
    rw [mapM_except_cons]
    cases bs with
    | nil => cases f a <;> cases l.mapM f <;> simp
    | cons b bs =>
      rw [List.map_cons, List.map_cons, List.cons.injEq, ← ih bs]
      cases f a <;> cases l.mapM f <;> simp

theorem mapM_except_length {ε α β} (f : α → Except ε β) (l : List α) (bs : List β)
    (h : l.mapM f = .ok bs) : bs.length = l.length := by
  simpa using (congrArg List.length ((mapM_except_eq_ok_iff f l bs).mp h)).symm

theorem mapM_except_getElem {ε α β} (f : α → Except ε β) (l : List α) (bs : List β) (h : l.mapM f = .ok bs)
    (i : Nat) (hi : i < l.length) :
    f l[i] = .ok (bs[i]'(by rw [mapM_except_length f l bs h]; exact hi)) := by
  have h2 := congrArg (·[i]?) ((mapM_except_eq_ok_iff f l bs).mp h)
  simpa [hi, mapM_except_length f l bs h] using h2

theorem mapM_except_error_mem {ε α β} (f : α → Except ε β) (l : List α) (e : ε) (h : l.mapM f = .error e) :
    ∃ a ∈ l, f a = .error e := by
  induction l with
  | nil => simp [List.mapM_nil, pure, Except.pure] at h
  | cons a l ih =>
    rw [mapM_except_cons] at h
    cases hfa : f a with
    | error e' =>
      simp only [hfa, Except.error.injEq] at h
      subst h
      exact ⟨a, by simp, hfa⟩
    | ok b =>
      cases hl : l.mapM f with
      | error e' =>
        simp only [hfa, hl, Except.error.injEq] at h
        subst h
        obtain ⟨a', ha', he⟩ := ih hl
        exact ⟨a', by simp [ha'], he⟩
      | ok bs' => simp [hfa, hl] at h

theorem mapM_except_error_of_mem {ε α β} (f : α → Except ε β) (l : List α) (E : ε)
    (hall : ∀ a ∈ l, ∀ e, f a = .error e → e = E) (hex : ∃ a ∈ l, f a = .error E) :
    l.mapM f = .error E := by
  induction l with
  | nil => obtain ⟨a, ha, _⟩ := hex; simp at ha
  | cons a l ih =>
    rw [mapM_except_cons]
    cases hfa : f a with
    | error e' => rw [hall a (by simp) e' hfa]
    | ok b =>
      obtain ⟨a', ha', he⟩ := hex
      rcases List.mem_cons.mp ha' with rfl | ha''
      · rw [hfa] at he; cases he
      · rw [ih (fun x hx => hall x (by simp [hx])) ⟨a', ha'', he⟩]

theorem mapM_option_getD {α β} (f : α → Option β) (d : β) (l : List α) (bs : List β) (h : l.mapM f = some bs) :
    l.map (fun a => (f a).getD d) = bs := by
  have := congrArg (List.map (·.getD d)) ((mapM_option_eq_some_iff f l bs).mp h)
  simpa only [List.map_map, Function.comp_def, Option.getD_some, List.map_id'] using this

theorem mapM_except_ok_mem {ε α β} (f : α → Except ε β) (l : List α) (bs : List β) (h : l.mapM f = .ok bs) :
    ∀ a ∈ l, ∃ b, f a = .ok b := by
  intro a ha
  have hmem : f a ∈ bs.map .ok := (mapM_except_eq_ok_iff f l bs).mp h ▸ List.mem_map_of_mem ha
  obtain ⟨b, _, hb⟩ := List.mem_map.mp hmem
  exact ⟨b, hb.symm⟩

end Flox
