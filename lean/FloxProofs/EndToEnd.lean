/-
  End to end on `runKnown`, for every resolved blueprint with a `Shape` (the simple-combine reductions): the eager path
  and the map-reduce path (blocks reindexed to the expected groups, `_simple_combine`, any chunking, any tree) compute,
  label by label, a slot function of the label's member list, and so does the specification `Spec.reduce`; the slot
  functions agree by `Slots.lean`.
-/
import FloxProofs.Slots
import FloxProofs.DenseTree

namespace Flox

theorem floatColumns_zero {k c : Kernel} {f : Val} (h : (k, c, f) ∈ floatColumns)
    (hk : k = .nanlen ∨ k = .nansumsq) : f = Val.zero :=
  (show ∀ t ∈ floatColumns, t.1 = .nanlen ∨ t.1 = .nansumsq → t.2.2 = Val.zero by decide +kernel) _ h hk

theorem nanlen_col_mem : (Kernel.nanlen, Kernel.sum, Val.zero) ∈ floatColumns := by simp [floatColumns]

theorem mem_cons_cntSuffix {α} {R : Resolved} {a x y : α} (h : a ∈ x :: cntSuffix R y) : a = x ∨ a = y := by
  unfold cntSuffix at h
  split at h
  · simpa using h
  · exact Or.inl (by simpa using h)

theorem zip_cons_cntSuffix {α β} (R : Resolved) (x x' : α) (y y' : β) :
    (x :: cntSuffix R x').zip (y :: cntSuffix R y') = (x, y) :: cntSuffix R (x', y') := by
  unfold cntSuffix
  split <;> rfl

namespace Shape

theorem length_combine (s : Shape) : s.chunk.length = s.combine.length := by
  cases s with
  | simple k c f => rfl
  | mean b => cases b <;> rfl
  | var b d => cases b <;> rfl

theorem length_interFills (s : Shape) : s.chunk.length = s.interFills.length := by
  cases s with
  | simple k c f => rfl
  | mean b => cases b <;> rfl
  | var b d => cases b <;> rfl

theorem cols_mem {s : Shape} (hwf : s.wf = true) :
    ∀ t ∈ s.chunk.zip (s.combine.zip s.interFills), t ∈ floatColumns := by
  cases s with
  | simple k c f =>
    have : (k, c, f) ∈ floatColumns := by simpa [Shape.wf] using hwf
    simpa [Shape.chunk, Shape.combine, Shape.interFills] using this
  | mean b => cases b <;> decide
  | var b d => cases b <;> (simp only [Shape.chunk, Shape.combine, Shape.interFills]; decide)

end Shape

namespace Shape.Fits

variable {s : Shape} {R : Resolved}

theorem simple_mem {k c : Kernel} {f : Val} (hs : (Shape.simple k c f).Fits R) : (k, c, f) ∈ floatColumns := by
  simpa [Shape.wf] using hs.wf

theorem cntSuffix_length {α} (R : Resolved) (x : α) :
    (cntSuffix R x).length = if R.minCount > 0 then 1 else 0 := by
  unfold cntSuffix; split <;> rfl

theorem cols_mem (hs : s.Fits R) : ∀ t ∈ R.chunk.zip (R.combine.zip R.interFills), t ∈ floatColumns := by
  rw [hs.chunk, hs.combine, hs.interFills,
    List.zip_append (by rw [← s.length_combine, ← s.length_interFills]),
    List.zip_append (by rw [List.length_zip, ← s.length_combine, ← s.length_interFills, Nat.min_self])]
  intro t ht
  rcases List.mem_append.mp ht with ht | ht
  · exact Shape.cols_mem hs.wf t ht
  · -- the count column
    unfold cntSuffix at ht
    split at ht
    · rw [List.mem_singleton.mp ht]; exact nanlen_col_mem
    · cases ht

theorem len_combine (hs : s.Fits R) : R.chunk.length = R.combine.length := by
  rw [hs.chunk, hs.combine, List.length_append, List.length_append, s.length_combine, cntSuffix_length,
    cntSuffix_length]

theorem len_interFills (hs : s.Fits R) : R.chunk.length = R.interFills.length := by
  rw [hs.chunk, hs.interFills, List.length_append, List.length_append, s.length_interFills, cntSuffix_length,
    cntSuffix_length]

theorem col_mem (hs : s.Fits R) (j : Nat) (hj : j < R.chunk.length) :
    (R.chunk[j], R.combine[j]'(by have := hs.len_combine; omega),
      R.interFills[j]'(by have := hs.len_interFills; omega)) ∈ floatColumns := by
  apply hs.cols_mem
  have h1 := hs.len_combine
  have h2 := hs.len_interFills
  have hz : j < (R.chunk.zip (R.combine.zip R.interFills)).length := by
    simp only [List.length_zip]; omega
  have := List.getElem_mem hz
  simpa only [List.getElem_zip] using this

theorem simpleOK (hs : s.Fits R) : SimpleOK R :=
  ⟨hs.len_combine, hs.len_interFills, fun j hj => column_law (hs.col_mem j hj)⟩

theorem chunk_noarg (hs : s.Fits R) : ∀ k ∈ R.chunk, isArgKernel k = false := by
  intro k hk
  obtain ⟨j, hj, rfl⟩ := List.getElem_of_mem hk
  exact (floatColumns_kernel (hs.col_mem j hj)).1

theorem chunk_zero (hs : s.Fits R) :
    ∀ p ∈ R.chunk.zip R.interFills, (p.1 = .nanlen ∨ p.1 = .nansumsq) → p.2 = Val.zero := by
  intro p hp hk
  obtain ⟨j, hj, rfl⟩ := List.getElem_of_mem hp
  simp only [List.length_zip] at hj
  simp only [List.getElem_zip] at hk ⊢
  exact floatColumns_zero (hs.col_mem j (by omega)) hk

theorem kernel_noarg (hs : s.Fits R) : isArgKernel s.kernel = false := by
  cases s with
  | simple k c f => exact (floatColumns_kernel hs.simple_mem).1
  | mean b => cases b <;> rfl
  | var b d => cases b <;> rfl

theorem numpy_noarg (hs : s.Fits R) : ∀ k ∈ R.numpy, isArgKernel k = false := by
  rw [hs.numpy]
  intro k hk
  rcases mem_cons_cntSuffix hk with rfl | rfl
  · exact hs.kernel_noarg
  · rfl

theorem numpy_zero (hs : s.Fits R) :
    ∀ p ∈ R.numpy.zip R.numpyFills, (p.1 = .nanlen ∨ p.1 = .nansumsq) → p.2 = Val.zero := by
  rw [hs.numpy, hs.numpyFills, zip_cons_cntSuffix]
  intro p hp hk
  rcases mem_cons_cntSuffix hp with rfl | rfl
  · exact hs.lenfill hk
  · rfl

end Shape.Fits

theorem finalizeVals_none (R : Resolved) (cols : List (List Val)) (h : R.finalize = "none") :
    finalizeVals R cols = cols.getD 0 [] := by
  unfold finalizeVals
  rw [h]
  rfl

abbrev dcol (n : Nat) (codes : List Int) (vals : List Val) (k : Kernel) (f : Val) : List Val :=
  (List.range n).map fun (g : Nat) => blockVal k f (members (Int.ofNat g) codes vals)

theorem zip3_map {α} (l : List α) (f g h : α → Val) (F : Val × Val × Val → Val) :
    ((l.map f).zip ((l.map g).zip (l.map h))).map F = l.map fun x => F (f x, g x, h x) := by
  induction l with
  | nil => rfl
  | cons x l ih => simp [ih]

theorem zipWith_map2 {α} (l : List α) (f g : α → Val) (F : Val → Val → Val) :
    List.zipWith F (l.map f) (l.map g) = l.map fun x => F (f x) (g x) := by
  induction l with
  | nil => rfl
  | cons x l ih => simp [ih]

theorem Shape.Fits.fcols_eq {α} {s : Shape} {R : Resolved} (hs : s.Fits R) (L : List α) (m : α → List Val) :
    fcols R.chunk R.interFills L m
      = fcols s.chunk s.interFills L m ++ cntSuffix R (L.map fun a => countVal (m a)) := by
  rw [hs.chunk, hs.interFills, fcols_append _ _ _ _ _ _ s.length_interFills]
  unfold cntSuffix
  split <;> rfl

theorem finalize_shape_gen {α} {s : Shape} {R : Resolved} (hs : s.Fits R) (L : List α) (m : α → List Val) :
    finalizeVals R (if R.minCount > 0 then (fcols R.chunk R.interFills L m).dropLast
        else fcols R.chunk R.interFills L m)
      = L.map fun a => s.mrVal (m a) := by
  have hcols : (if R.minCount > 0 then (fcols R.chunk R.interFills L m).dropLast
      else fcols R.chunk R.interFills L m) = fcols s.chunk s.interFills L m := by
    rw [hs.fcols_eq]
    unfold cntSuffix
    split
    · exact List.dropLast_concat
    · exact List.append_nil _
  rw [hcols]
  have hfin := hs.fin
  cases s with
  | simple k c f =>
    rw [finalizeVals_none R _ (by simpa [Shape.finalizeOK] using hfin)]
    rfl
  | mean b =>
    rw [finalizeVals_mean R _ (by simpa [Shape.finalizeOK] using hfin)]
    cases b <;> simp [fcols, Shape.chunk, Shape.interFills, Shape.mrVal]
  | var b d =>
    have hd : d = R.ddof := by simpa [Shape.ddofOK] using hs.ddof
    subst hd
    have hf : R.finalize = "var" ∨ R.finalize = "std" := by simpa [Shape.finalizeOK] using hfin
    have hfv : ∀ cols, finalizeVals R cols = ((cols.getD 0 []).zip ((cols.getD 1 []).zip (cols.getD 2 []))).map
        fun (sq, s, c) => onepass R.ddof sq s c := fun cols =>
      hf.elim (finalizeVals_var R cols) (finalizeVals_std R cols)
    rw [hfv]
    cases b <;> simp [fcols, Shape.chunk, Shape.interFills, Shape.mrVal, zip3_map]

theorem count_shape_gen {α} {s : Shape} {R : Resolved} (hs : s.Fits R) (L : List α) (m : α → List Val)
    (hm : R.minCount > 0) :
    (fcols R.chunk R.interFills L m).getLastD [] = L.map fun a => countVal (m a) := by
  rw [hs.fcols_eq, cntSuffix, if_pos hm]
  simp

theorem finalizeResults_fcols {α : Type} {s : Shape} {R : Resolved} (hs : s.Fits R) (G : List Key) (L : List α)
    (m : α → List Val) (expected : Option (List Key)) (rb : Bool) :
    finalizeResults R { groups := G, cols := fcols R.chunk R.interFills L m } expected rb =
      match L.mapM (fun a => maskedSlot R (countVal (m a)) (s.mrVal (m a))) with
      | .error e => .error e
      | .ok vals =>
        match expected, rb with
        | some ex, false =>
          match reindexCol vals G ex R.userFill with
          | some v => .ok (ex, v)
          | none => .error "ValueError"
        | _, _ => .ok (G, vals) :=
  finalizeResults_masked R _ L _ _ expected rb (finalize_shape_gen hs L m) (count_shape_gen hs L m)

theorem finalizeResults_numpy {α : Type} {s : Shape} {R : Resolved} (hs : s.Fits R) (G : List Key) (L : List α)
    (m : α → List Val) (expected : Option (List Key)) (rb : Bool) (h : expected = none ∨ rb = true) :
    finalizeResults { R with finalize := "none" } { groups := G, cols := fcols R.numpy R.numpyFills L m } expected rb
      = (L.mapM fun a => eagerSlot R (m a)).map fun vals => (G, vals) := by
  refine (finalizeResults_masked { R with finalize := "none" } _ L
    (fun a => blockVal (R.numpy.headD default) R.npFill (m a)) (fun a => countVal (m a)) expected rb ?_ ?_).trans ?_
  · rw [finalizeVals_none _ _ rfl]
    show (if R.minCount > 0 then (fcols R.numpy R.numpyFills L m).dropLast
      else fcols R.numpy R.numpyFills L m).getD 0 [] = _
    rw [hs.numpy, hs.numpyFills]
    by_cases hm : R.minCount > 0
    · simp only [cntSuffix, if_pos hm]; rfl
    · simp only [cntSuffix, if_neg hm]; rfl
  · intro hm
    have hm : R.minCount > 0 := hm
    show (fcols R.numpy R.numpyFills L m).getLastD [] = _
    rw [hs.numpy, hs.numpyFills]
    simp only [cntSuffix, if_pos hm]
    rfl
  · show (match L.mapM fun a => eagerSlot R (m a) with
      | .error e => .error e
      | .ok vals => _ : Except String (List Key × List Val)) = _
    cases L.mapM fun a => eagerSlot R (m a) with
    | error e => rfl
    | ok vals =>
      rcases h with rfl | rfl
      · rfl
      · cases expected <;> rfl

/-- the keys `groupby_reduce` hands to the pipeline after factorising: the integer codes -/
abbrev codeKeys (codes : List Int) : List Key := codes.map fun (i : Int) => (some (i : Rat) : Key)

theorem codeKeys_length (codes : List Int) : (codeKeys codes).length = codes.length := List.length_map _

abbrev CodesOK (codes : List Int) (n : Nat) : Prop := ∀ c ∈ codes, -1 ≤ c ∧ c < (n : Int)

theorem runKnown_eager_slots (R : Resolved) (s : Shape) (c : Call) (n : Nat) (floatData : Bool)
    (chunks : List Nat) (codes : List Int) (vals : List Val)
    (hR : c.R = R) (heng : c.eng = .npg) (hn : c.ngroups = n) (hs : s.Fits R) (hcodes : CodesOK codes n) :
    runKnown c .eager floatData chunks (codeKeys codes) vals
      = (List.range n).mapM fun (g : Nat) => eagerSlot R (members (Int.ofNat g) codes vals) := by
  subst hR
  rw [runKnown_eager, heng, hn, chunkReduce_dense' c.R.numpy c.R.numpyFills codes vals n c.sort hcodes hs.numpy_noarg hs.numpy_zero]
  show (match finalizeResults { c.R with finalize := "none" }
      { groups := rangeKeys n, cols := fcols c.R.numpy c.R.numpyFills (List.range n)
          fun g : Nat => members (Int.ofNat g) codes vals } (some (rangeKeys n)) true with
    | .error e => (.error e : Except String (List Val))
    | .ok (gs, vs) => finalReindex c false gs vs) = _
  rw [finalizeResults_numpy hs _ _ _ _ _ (Or.inr rfl)]
  cases h : (List.range n).mapM fun g : Nat => eagerSlot c.R (members (Int.ofNat g) codes vals) with
  | error e => rfl
  | ok vs => exact finalReindex_range c n vs hn (by simpa using mapM_except_length _ _ _ h)

theorem runKnown_mapreduce_slots (R : Resolved) (s : Shape) (c : Call) (n : Nat) (floatData : Bool)
    (chunks : List Nat) (codes : List Int) (vals : List Val)
    (hR : c.R = R) (heng : c.eng = .npg) (hn : c.ngroups = n) (hs : s.Fits R) (hcodes : CodesOK codes n)
    (hlen : codes.length = vals.length)
    (hchunks : chunks ≠ []) (hsum : chunks.sum = codes.length)
    (hcombine : useGroupedCombine c floatData = false) :
    runKnown c (.mapreduce true) floatData chunks (codeKeys codes) vals
      = (List.range n).mapM fun (g : Nat) => mrSlot R s (members (Int.ofNat g) codes vals) := by
  subst hR
  rw [runKnown_mapreduce c true _ _ _ _ hcombine, mapreduce_dense' c.R c n chunks codes vals c.splitEvery rfl heng hn hs.isArg hs.simpleOK
    hs.chunk_noarg hs.chunk_zero hchunks hsum hlen hcodes, hn]
  exact finish_dense c c.R n (denseInter c.R.chunk c.R.interFills n codes vals)
    (fun g => s.mrVal (members (Int.ofNat g) codes vals))
    (fun g => countVal (members (Int.ofNat g) codes vals)) hn rfl
    (finalize_shape_gen hs _ _) (count_shape_gen hs _ _)

theorem floatColumns_notSpecArg {k c : Kernel} {f : Val} (h : (k, c, f) ∈ floatColumns) : Spec.isArg k = false :=
  (show ∀ t ∈ floatColumns, Spec.isArg t.1 = false by decide +kernel) _ h

theorem Shape.Fits.kernel_notSpecArg {s : Shape} {R : Resolved} (hs : s.Fits R) : Spec.isArg s.kernel = false := by
  cases s with
  | simple k c f => exact floatColumns_notSpecArg hs.simple_mem
  | mean b => cases b <;> rfl
  | var b d => cases b <;> rfl

def specResult (k : Kernel) (R : Resolved) (codes : List Int) (vals : List Val) (n : Nat) :
    Except String (List Val) :=
  match Spec.reduce k R.minCount R.userFill codes vals n with
  | some vs => .ok vs
  | none => .error "ValueError"

theorem specResult_slots {s : Shape} {R : Resolved} (hs : s.Fits R) (codes : List Int) (vals : List Val) (n : Nat) :
    specResult s.kernel R codes vals n
      = (List.range n).mapM fun (g : Nat) => specSlot R s.kernel (members (Int.ofNat g) codes vals) := by
  have h := mapM_option_toExcept
    (fun (g : Nat) => Spec.slot s.kernel R.minCount R.userFill (members (Int.ofNat g) codes vals)) (List.range n)
  unfold specResult Spec.reduce
  simp only [hs.kernel_notSpecArg, Bool.false_eq_true, if_false]
  cases hm : (List.range n).mapM
      (fun (g : Nat) => Spec.slot s.kernel R.minCount R.userFill (members (Int.ofNat g) codes vals)) with
  | none => rw [hm] at h; exact h
  | some vs => rw [hm] at h; exact h

/-- **C01, end to end.** The eager path returns, for every requested label, the NumPy reduction of that label's
    members (original order), the user's fill where the label is absent / has fewer than `min_count` valid members,
    and raises exactly when the specification says a fill is required but none was given. -/
theorem eager_eq_spec (R : Resolved) (s : Shape) (c : Call) (n : Nat) (floatData : Bool)
    (chunks : List Nat) (codes : List Int) (vals : List Val)
    (hR : c.R = R) (heng : c.eng = .npg) (hn : c.ngroups = n) (_hknown : c.knownLabels = true)
    (hshape : R.shape? = some s) (hcodes : CodesOK codes n) (_hlen : codes.length = vals.length)
    (H_absent : ∀ g : Nat, g < n → HAbsent R (members (Int.ofNat g) codes vals))
    (H_allnan : HAllNaN R s) :
    runKnown c .eager floatData chunks (codeKeys codes) vals = specResult s.kernel R codes vals n := by
  have hs := (R.shape?_eq_some_iff s).mp hshape
  rw [runKnown_eager_slots R s c n floatData chunks codes vals hR heng hn hs hcodes, specResult_slots hs]
  apply mapM_congr
  intro g hg
  exact eagerSlot_eq_specSlot hs _ (H_absent g (List.mem_range.mp hg)) H_allnan

/-- **C02, end to end.** Map-reduce with reindexing at the block stage and the simple combine = specification,
    for every chunking and every `split_every`. (No condition on the NumPy fill.) -/
theorem mapreduce_dense_eq_spec (R : Resolved) (s : Shape) (c : Call) (n : Nat) (floatData : Bool)
    (chunks : List Nat) (codes : List Int) (vals : List Val)
    (hR : c.R = R) (heng : c.eng = .npg) (hn : c.ngroups = n)
    (hshape : R.shape? = some s) (hcodes : CodesOK codes n) (hlen : codes.length = vals.length)
    (H_absent : ∀ g : Nat, g < n → HAbsent R (members (Int.ofNat g) codes vals))
    (H_minmax : HMinMax R s)
    (hchunks : chunks ≠ []) (hsum : chunks.sum = codes.length)
    (hcombine : useGroupedCombine c floatData = false) :
    runKnown c (.mapreduce true) floatData chunks (codeKeys codes) vals = specResult s.kernel R codes vals n := by
  have hs := (R.shape?_eq_some_iff s).mp hshape
  rw [runKnown_mapreduce_slots R s c n floatData chunks codes vals hR heng hn hs hcodes hlen hchunks hsum hcombine,
    specResult_slots hs]
  apply mapM_congr
  intro g hg
  exact mrSlot_eq_specSlot hs _ (H_absent g (List.mem_range.mp hg)) H_minmax

/-- **C02.** Map-reduce (dense blocks, simple combine) = eager, for every chunking (`chunks'` of the eager call
    is ignored by the model) and every `split_every`. -/
theorem mapreduce_dense_eq_eager (R : Resolved) (s : Shape) (c : Call) (n : Nat) (floatData : Bool)
    (chunks chunks' : List Nat) (codes : List Int) (vals : List Val)
    (hR : c.R = R) (heng : c.eng = .npg) (hn : c.ngroups = n) (hknown : c.knownLabels = true)
    (hshape : R.shape? = some s) (hcodes : CodesOK codes n) (hlen : codes.length = vals.length)
    (H_absent : ∀ g : Nat, g < n → HAbsent R (members (Int.ofNat g) codes vals))
    (H_allnan : HAllNaN R s) (H_minmax : HMinMax R s)
    (hchunks : chunks ≠ []) (hsum : chunks.sum = codes.length)
    (hcombine : useGroupedCombine c floatData = false) :
    runKnown c (.mapreduce true) floatData chunks (codeKeys codes) vals
      = runKnown c .eager floatData chunks' (codeKeys codes) vals := by
  rw [mapreduce_dense_eq_spec R s c n floatData chunks codes vals hR heng hn hshape hcodes hlen H_absent
      H_minmax hchunks hsum hcombine,
    eager_eq_spec R s c n floatData chunks' codes vals hR heng hn hknown hshape hcodes hlen H_absent H_allnan]

end Flox
