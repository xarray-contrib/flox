/-
  Non-vacuity examples and necessity counterexamples for the end-to-end theorems.  The concrete facts are evaluated by
  `decide +kernel`; a fact or an instance of a theorem that several examples (here, in the other `*Examples` files or in
  `FloxProps`) need is stated once under a name, and a concrete value of a plan is obtained through the instance.
-/
import FloxProofs.TableShape

namespace Flox
namespace E2E

/-! concrete blueprints, as `_initialize_aggregation` resolves them for float64 data -/

def mkCall (R : Resolved) (eng : Eng) (n se : Nat) : Call :=
  { R := R, eng := eng, sort := true, ngroups := n, knownLabels := true, fillArg := R.userFill, splitEvery := se }

/-- `nanmean`, `min_count=1`, `fill_value=-1` -/
def Rnanmean : Resolved :=
  { name := "nanmean", numpy := [.nanmean, .nanlen], chunk := [.nansum, .nanlen, .nanlen],
    combine := [.sum, .sum, .sum], interFills := [Val.zero, Val.zero, Val.zero], numpyFills := [Val.nan, Val.zero],
    finalFill := some Val.nan, userFill := some (Val.fin (-1)), minCount := 1, finalize := "mean", ddof := 0,
    isArg := false }

/-- `nanvar(ddof=1)`, no `min_count` -/
def Rnanvar : Resolved :=
  { name := "nanvar", numpy := [.nanvar 1], chunk := [.nansumsq, .nansum, .nanlen],
    combine := [.sum, .sum, .sum], interFills := [Val.zero, Val.zero, Val.zero], numpyFills := [Val.nan],
    finalFill := some Val.nan, userFill := none, minCount := 0, finalize := "var", ddof := 1, isArg := false }

/-- `nanmax` as the registry resolves it (`min_count` forced to 1, default fill NaN) -/
def Rnanmax : Resolved :=
  { name := "nanmax", numpy := [.nanmax, .nanlen], chunk := [.nanmax, .nanlen], combine := [.nanmax, .sum],
    interFills := [Val.ninf, Val.zero], numpyFills := [Val.nan, Val.zero], finalFill := some Val.nan,
    userFill := some Val.nan, minCount := 1, finalize := "none", ddof := 0, isArg := false }

/-- `sum`, no `min_count`, no fill -/
def Rsum : Resolved :=
  { name := "sum", numpy := [.sum], chunk := [.sum], combine := [.sum], interFills := [Val.zero],
    numpyFills := [Val.nan], finalFill := some Val.nan, userFill := none, minCount := 0,
    finalize := "none", ddof := 0, isArg := false }

def codes8 : List Int := [0, -1, 2, 0, 2, 2, 0, 3]
def vals8 : List Val := [.fin 1, .fin 9, .fin 3, .nan, .fin 5, .nan, .fin 2, .nan]
-- group 0: [1, nan, 2]; group 1: absent; group 2: [3, 5, nan]; group 3: [nan] (all-NaN); one dropped element

theorem Rnanmean_shape : Rnanmean.shape? = some (.mean true) := by decide +kernel
theorem Rnanmax_shape : Rnanmax.shape? = some (.simple .nanmax .nanmax Val.ninf) := by decide +kernel
theorem Rsum_shape : Rsum.shape? = some (.simple .sum .sum Val.zero) := by decide +kernel

example : Rnanmean.shape? = some (.mean true) := Rnanmean_shape
example : Rnanvar.shape? = some (.var true 1) := by decide +kernel
example : Rnanmax.shape? = some (.simple .nanmax .nanmax Val.ninf) := Rnanmax_shape
example : Rsum.shape? = some (.simple .sum .sum Val.zero) := Rsum_shape

/-- the count mask is on (`min_count=1`), so `H_absent`, `H_allnan` and `H_minmax` hold for `nanmean` and `nanmax` -/
theorem Rnanmean_absent (ms : List Val) : HAbsent Rnanmean ms := Or.inl (by decide)
theorem Rnanmean_allnan : HAllNaN Rnanmean (.mean true) := fun _ => Or.inl (by decide)
theorem Rnanmean_minmax : HMinMax Rnanmean (.mean true) := fun _ => by decide
theorem Rnanmax_allnan : HAllNaN Rnanmax (.simple .nanmax .nanmax Val.ninf) := fun _ => Or.inl (by decide)
theorem Rnanmax_minmax : HMinMax Rnanmax (.simple .nanmax .nanmax Val.ninf) := fun _ => by decide

theorem codes8_ok : CodesOK codes8 4 := by decide +kernel

/-- `eager_eq_spec` applies to `nanmean` (absent group 1 and all-NaN group 3 are masked to the fill -1) -/
theorem nanmean_eager : runKnown (mkCall Rnanmean .npg 4 2) .eager true [8] (codeKeys codes8) vals8
    = specResult .nanmean Rnanmean codes8 vals8 4 :=
  eager_eq_spec Rnanmean (.mean true) (mkCall Rnanmean .npg 4 2) 4 true [8] codes8 vals8 rfl rfl rfl rfl
    Rnanmean_shape codes8_ok rfl (fun _ _ => Rnanmean_absent _) Rnanmean_allnan

example : runKnown (mkCall Rnanmean .npg 4 2) .eager true [8] (codeKeys codes8) vals8
    = specResult .nanmean Rnanmean codes8 vals8 4 := nanmean_eager

/-- the common value of all plans on `codes8`, `vals8` -/
theorem nanmean_spec : specResult .nanmean Rnanmean codes8 vals8 4
    = .ok [Val.fin (3/2), Val.fin (-1), Val.fin 4, Val.fin (-1)] := by decide +kernel

example : specResult .nanmean Rnanmean codes8 vals8 4
    = .ok [Val.fin (3/2), Val.fin (-1), Val.fin 4, Val.fin (-1)] := nanmean_spec

example : runKnown (mkCall Rnanmean .npg 4 2) .eager true [8] (codeKeys codes8) vals8
    = .ok [Val.fin (3/2), Val.fin (-1), Val.fin 4, Val.fin (-1)] := nanmean_eager.trans nanmean_spec

/-- `mapreduce_dense_eq_eager` applies to `nanmean` with 4 blocks and a binary tree -/
theorem nanmean_dense : runKnown (mkCall Rnanmean .npg 4 2) (.mapreduce true) true [2, 1, 3, 2] (codeKeys codes8) vals8
    = runKnown (mkCall Rnanmean .npg 4 2) .eager true [8] (codeKeys codes8) vals8 :=
  mapreduce_dense_eq_eager Rnanmean (.mean true) (mkCall Rnanmean .npg 4 2) 4 true [2, 1, 3, 2] [8] codes8 vals8
    rfl rfl rfl rfl Rnanmean_shape codes8_ok rfl (fun _ _ => Rnanmean_absent _) Rnanmean_allnan Rnanmean_minmax
    (by decide) rfl (useGroupedCombine_float _ rfl rfl)

example : runKnown (mkCall Rnanmean .npg 4 2) (.mapreduce true) true [2, 1, 3, 2] (codeKeys codes8) vals8
    = runKnown (mkCall Rnanmean .npg 4 2) .eager true [8] (codeKeys codes8) vals8 := nanmean_dense

example : runKnown (mkCall Rnanmean .npg 4 2) (.mapreduce true) true [2, 1, 3, 2] (codeKeys codes8) vals8
    = .ok [Val.fin (3/2), Val.fin (-1), Val.fin 4, Val.fin (-1)] :=
  nanmean_dense.trans (nanmean_eager.trans nanmean_spec)

/-- `nanvar(ddof=1)` without `min_count`: every requested label present (`H_absent` through `ms ≠ []`);
    the all-NaN group gets NaN because the NumPy fill is NaN (`H_allnan`) -/
def codes6 : List Int := [0, 1, 0, 2, 0, 1]
def vals6 : List Val := [.fin 1, .fin 4, .fin (-2), .nan, .fin 4, .nan]

example : runKnown (mkCall Rnanvar .npg 3 3) (.mapreduce true) true [1, 2, 3] (codeKeys codes6) vals6
    = runKnown (mkCall Rnanvar .npg 3 3) .eager true [6] (codeKeys codes6) vals6 :=
  mapreduce_dense_eq_eager Rnanvar (.var true 1) (mkCall Rnanvar .npg 3 3) 3 true [1, 2, 3] [6] codes6 vals6
    rfl rfl rfl rfl (by decide +kernel) (by decide +kernel) rfl
    (by decide +kernel) (by decide +kernel) (by decide +kernel) (by decide) rfl (useGroupedCombine_float _ rfl rfl)

example : runKnown (mkCall Rnanvar .npg 3 3) .eager true [6] (codeKeys codes6) vals6
    = .ok [Val.fin 9, Val.nan, Val.nan] := by decide +kernel
example : specResult (.nanvar 1) Rnanvar codes6 vals6 3 = .ok [Val.fin 9, Val.nan, Val.nan] := by decide +kernel

/-- the `ValueError` branch is reachable and agrees: `nanmean` with `min_count=1` but no fill -/
example : runKnown (mkCall { Rnanmean with userFill := none } .npg 4 2) .eager true [8] (codeKeys codes8) vals8
      = .error "ValueError"
    ∧ runKnown (mkCall { Rnanmean with userFill := none } .npg 4 2) (.mapreduce true) true [3, 5] (codeKeys codes8)
        vals8 = .error "ValueError"
    ∧ specResult .nanmean { Rnanmean with userFill := none } codes8 vals8 4 = .error "ValueError" := by
  decide +kernel

/-- flox's own engine: `nanmax` through `eager_eq_spec_flox` and `mapreduce_dense_eq_spec_flox` -/
example : runKnown (mkCall Rnanmax .flox 4 2) .eager true [8] (codeKeys codes8) vals8
    = specResult .nanmax Rnanmax codes8 vals8 4 :=
  eager_eq_spec_flox Rnanmax (.simple .nanmax .nanmax Val.ninf) (mkCall Rnanmax .flox 4 2) 4 true [8] codes8 vals8
    rfl rfl rfl rfl Rnanmax_shape (by decide) codes8_ok rfl (fun _ _ => Or.inl (by decide)) Rnanmax_allnan

example : runKnown (mkCall Rnanmax .flox 4 2) (.mapreduce true) true [5, 3] (codeKeys codes8) vals8
    = specResult .nanmax Rnanmax codes8 vals8 4 :=
  mapreduce_dense_eq_spec_flox Rnanmax (.simple .nanmax .nanmax Val.ninf) (mkCall Rnanmax .flox 4 2) 4 true [5, 3]
    codes8 vals8 rfl rfl rfl Rnanmax_shape codes8_ok rfl (fun _ _ => Or.inl (by decide))
    Rnanmax_minmax (by decide) rfl (useGroupedCombine_float _ rfl rfl)

example : specResult .nanmax Rnanmax codes8 vals8 4 = .ok [Val.fin 2, Val.nan, Val.fin 5, Val.nan] := by
  decide +kernel

/-- `nanfirst` without `min_count`, NumPy fill 0 instead of NaN -/
def Rnanfirst0 : Resolved :=
  { name := "nanfirst", numpy := [.nanfirst], chunk := [.nanfirst], combine := [.nanfirst], interFills := [Val.nan],
    numpyFills := [Val.fin 0], finalFill := some Val.nan, userFill := none, minCount := 0, finalize := "none",
    ddof := 0, isArg := false }

/-- `H_allnan` is necessary (`eager_eq_spec`, `mapreduce_dense_eq_eager`): an all-NaN group gets the NumPy fill
    from numpy_groupies (NaNs are dropped before grouping), NumPy's `nanfirst` gives NaN. -/
theorem H_allnan_counterexample :
    Rnanfirst0.shape? = some (.simple .nanfirst .nanfirst Val.nan)
    ∧ HAbsent Rnanfirst0 (members 0 [0] [Val.nan]) ∧ HMinMax Rnanfirst0 (.simple .nanfirst .nanfirst Val.nan)
    ∧ ¬ HAllNaN Rnanfirst0 (.simple .nanfirst .nanfirst Val.nan)
    ∧ runKnown (mkCall Rnanfirst0 .npg 1 2) .eager true [1] (codeKeys [0]) [Val.nan] = .ok [Val.fin 0]
    ∧ specResult .nanfirst Rnanfirst0 [0] [Val.nan] 1 = .ok [Val.nan]
    ∧ runKnown (mkCall Rnanfirst0 .npg 1 2) (.mapreduce true) true [1] (codeKeys [0]) [Val.nan] = .ok [Val.nan] := by
  decide +kernel

/-- `nanmax` with the count mask switched off (not what the registry produces) -/
def Rnanmax0 : Resolved :=
  { name := "nanmax", numpy := [.nanmax], chunk := [.nanmax], combine := [.nanmax], interFills := [Val.ninf],
    numpyFills := [Val.nan], finalFill := some Val.nan, userFill := none, minCount := 0, finalize := "none",
    ddof := 0, isArg := false }

/-- `H_minmax` is necessary (`mapreduce_dense_eq_spec`, `mapreduce_dense_eq_eager`): without the count mask an
    all-NaN group keeps the intermediate fill `-inf` in the map-reduce path. -/
theorem H_minmax_counterexample :
    Rnanmax0.shape? = some (.simple .nanmax .nanmax Val.ninf)
    ∧ HAbsent Rnanmax0 (members 0 [0] [Val.nan]) ∧ HAllNaN Rnanmax0 (.simple .nanmax .nanmax Val.ninf)
    ∧ ¬ HMinMax Rnanmax0 (.simple .nanmax .nanmax Val.ninf)
    ∧ runKnown (mkCall Rnanmax0 .npg 1 2) (.mapreduce true) true [1] (codeKeys [0]) [Val.nan] = .ok [Val.ninf]
    ∧ runKnown (mkCall Rnanmax0 .npg 1 2) .eager true [1] (codeKeys [0]) [Val.nan] = .ok [Val.nan]
    ∧ specResult .nanmax Rnanmax0 [0] [Val.nan] 1 = .ok [Val.nan] := by decide +kernel

/-- `count` with a non-zero NumPy fill (not what the registry produces) -/
def Rcount7 : Resolved :=
  { name := "count", numpy := [.nanlen], chunk := [.nanlen], combine := [.sum], interFills := [Val.zero],
    numpyFills := [Val.fin 7], finalFill := some Val.zero, userFill := none, minCount := 0, finalize := "none",
    ddof := 0, isArg := false }

/-- the `nanlen` fill check inside `Shape.fits` is necessary: numpy_groupies' `_len` wrapper replaces a zero count
    by the fill, so an all-NaN group would count 7. -/
theorem lenfill_counterexample :
    Rcount7.shape? = none ∧ { Rcount7 with numpyFills := [Val.zero] }.shape? = some (.simple .nanlen .sum Val.zero)
    ∧ runKnown (mkCall Rcount7 .npg 1 2) .eager true [1] (codeKeys [0]) [Val.nan] = .ok [Val.fin 7]
    ∧ specResult .nanlen Rcount7 [0] [Val.nan] 1 = .ok [Val.fin 0] := by decide +kernel

/-- `chunks ≠ []` is necessary: with no block at all (and no data) and no user fill, the combine of nothing fills the
    requested slot with NaN and returns it, while the eager path (and the specification) raise. -/
theorem chunks_ne_nil_counterexample :
    runKnown (mkCall Rnanmean .npg 1 2) (.mapreduce true) true [] (codeKeys []) [] = .ok [Val.fin (-1)]
    ∧ runKnown (mkCall { Rnanmean with userFill := none } .npg 1 2) (.mapreduce true) true [] (codeKeys []) []
        ≠ runKnown (mkCall { Rnanmean with userFill := none } .npg 1 2) .eager true [] (codeKeys []) [] := by
  decide +kernel

/-- `chunks.sum = codes.length` is necessary: blocks that do not cover the array drop elements. -/
theorem chunks_sum_counterexample :
    runKnown (mkCall Rnanmean .npg 4 2) (.mapreduce true) true [2, 1] (codeKeys codes8) vals8
      ≠ runKnown (mkCall Rnanmean .npg 4 2) .eager true [8] (codeKeys codes8) vals8 := by decide +kernel

/-- `mean` with a NumPy fill that is not NaN (not what the registry produces), no `min_count` -/
def Rmean3 : Resolved :=
  { name := "mean", numpy := [.mean], chunk := [.sum, .nanlen], combine := [.sum, .sum],
    interFills := [Val.zero, Val.zero], numpyFills := [Val.fin 3], finalFill := some Val.nan, userFill := none,
    minCount := 0, finalize := "mean", ddof := 0, isArg := false }

/-- `HFloxMean` is necessary for the engine-independence statement `eager_engine_irrelevant`: flox's own `mean`
    puts `fill / 0` into an absent slot, numpy_groupies puts `fill`.  (For `eager_eq_spec_flox` itself the absent slot
    is excluded by `H_absent`, so there `HFloxMean` is only needed by the proof, which goes through engine equality.) -/
theorem H_floxmean_counterexample :
    Rmean3.shape? = some (.mean false) ∧ ¬ HFloxMean Rmean3 (.mean false)
    ∧ runKnown (mkCall Rmean3 .flox 2 2) .eager true [1] (codeKeys [0]) [Val.fin 1] = .ok [Val.fin 1, Val.pinf]
    ∧ runKnown (mkCall Rmean3 .npg 2 2) .eager true [1] (codeKeys [0]) [Val.fin 1] = .ok [Val.fin 1, Val.fin 3] := by
  decide +kernel

/-- flox engine, `nanmean` (NumPy fill NaN): `eager_eq_spec_flox` applies -/
example : runKnown (mkCall Rnanmean .flox 4 2) .eager true [8] (codeKeys codes8) vals8
    = specResult .nanmean Rnanmean codes8 vals8 4 :=
  eager_eq_spec_flox Rnanmean (.mean true) (mkCall Rnanmean .flox 4 2) 4 true [8] codes8 vals8
    rfl rfl rfl rfl Rnanmean_shape (by decide +kernel) codes8_ok rfl (fun _ _ => Rnanmean_absent _) Rnanmean_allnan

end E2E
end Flox
