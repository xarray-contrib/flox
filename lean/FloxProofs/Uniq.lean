/-
  The label lists `pd.factorize(sort=…)` / `pd.unique` deliver: strictly ascending (`uniqSorted`) or in order of first
  appearance (`uniqFirst`, through its fold `Grp.ufGo`), either way duplicate-free with the members of the input, and
  deduplicating a concatenation of deduplicated lists deduplicates the concatenation (`Grp.uniqOf_flatMap`: a combine
  may factorize again).  A lookup (`indexOf?`, `lookupKey`) returns a position of the element, `none` exactly when it
  is absent; `reindexCol` is built on that lookup.
-/
import FloxModel.Pipeline
import FloxProofs.InsertionSort

namespace Flox

theorem mem_insertSorted (x y : Rat) (l : List Rat) : y ∈ insertSorted x l ↔ y = x ∨ y ∈ l :=
  mem_insert_of_eqns (lt := (· < ·)) (ins := insertSorted) (fun _ => rfl) (fun _ _ _ => rfl) y x l

theorem mem_uniqSorted (y : Rat) (l : List Rat) : y ∈ uniqSorted l ↔ y ∈ l :=
  mem_foldr_insert (fun v x ys => mem_insertSorted x v ys) y l

theorem pairwise_insertSorted (x : Rat) (l : List Rat) (h : l.Pairwise (· < ·)) :
    (insertSorted x l).Pairwise (· < ·) :=
  pairwise_insert_of_eqns (ins := insertSorted) (fun _ => rfl) (fun _ _ _ => rfl) (by grind)
    (fun h hne => Rat.lt_of_le_of_ne (Rat.not_lt.mp h) (Ne.symm hne)) x h

theorem pairwise_uniqSorted (l : List Rat) : (uniqSorted l).Pairwise (· < ·) := by
  induction l with
  | nil => simp [uniqSorted]
  | cons x xs ih => exact pairwise_insertSorted x _ ih

theorem nodup_of_pairwise_lt (l : List Rat) (h : l.Pairwise (· < ·)) : l.Nodup :=
  h.imp fun hab e => by subst e; exact Rat.lt_irrefl hab

theorem sorted_ext (l₁ l₂ : List Rat) (h₁ : l₁.Pairwise (· < ·)) (h₂ : l₂.Pairwise (· < ·))
    (h : ∀ y, y ∈ l₁ ↔ y ∈ l₂) : l₁ = l₂ :=
  List.Perm.eq_of_pairwise (fun _ _ _ _ hab hba => absurd hba (Rat.not_lt.mpr (Rat.le_of_lt hab))) h₁ h₂
    ((List.perm_ext_iff_of_nodup (nodup_of_pairwise_lt _ h₁) (nodup_of_pairwise_lt _ h₂)).mpr h)

theorem nodup_uniqSorted (l : List Rat) : (uniqSorted l).Nodup := nodup_of_pairwise_lt _ (pairwise_uniqSorted l)

namespace Grp

abbrev ufStep (acc : List Rat) (x : Rat) : List Rat := if acc.contains x then acc else acc ++ [x]

abbrev ufGo (acc xs : List Rat) : List Rat := xs.foldl ufStep acc

theorem uniqFirst_eq (xs : List Rat) : uniqFirst xs = ufGo [] xs := rfl

theorem mem_ufGo (y : Rat) (acc xs : List Rat) : y ∈ ufGo acc xs ↔ y ∈ acc ∨ y ∈ xs := by
  induction xs generalizing acc with
  | nil => simp
  | cons x xs ih =>
    have hstep : y ∈ ufStep acc x ↔ y ∈ acc ∨ y = x := by
      by_cases hx : x ∈ acc
      · simp only [ufStep, List.contains_iff_mem, hx, if_true]
        exact ⟨Or.inl, fun h => h.elim id (· ▸ hx)⟩
      · simp [ufStep, hx]
    show y ∈ ufGo (ufStep acc x) xs ↔ _
    rw [ih, hstep, List.mem_cons, or_assoc]

theorem nodup_ufGo (acc xs : List Rat) (h : acc.Nodup) : (ufGo acc xs).Nodup := by
  induction xs generalizing acc with
  | nil => exact h
  | cons x xs ih =>
    refine ih (ufStep acc x) ?_
    by_cases hx : x ∈ acc
    · simpa [ufStep, hx] using h
    · simp only [ufStep, List.contains_iff_mem, hx, if_false]
      exact List.nodup_append.mpr ⟨h, by simp, fun a ha b hb e => hx (List.mem_singleton.mp hb ▸ e ▸ ha)⟩

theorem ufGo_append (acc xs ys : List Rat) : ufGo acc (xs ++ ys) = ufGo (ufGo acc xs) ys := by
  simp [ufGo, List.foldl_append]

theorem ufGo_ufStep (acc acc0 : List Rat) (x : Rat) :
    ufGo acc (ufStep acc0 x) = ufStep (ufGo acc acc0) x := by
  by_cases hx : acc0.contains x = true
  · have hx' : x ∈ acc0 := by simpa using hx
    have hx'' : (ufGo acc acc0).contains x = true := by
      simp only [List.contains_iff_mem]
      exact (mem_ufGo x acc acc0).mpr (Or.inr hx')
    simp only [ufStep, hx, hx'', if_true]
  · simp only [ufStep, hx, Bool.false_eq_true, if_false]
    exact ufGo_append acc acc0 [x]

theorem ufGo_ufGo' (acc acc0 xs : List Rat) : ufGo acc (ufGo acc0 xs) = ufGo (ufGo acc acc0) xs := by
  induction xs generalizing acc0 with
  | nil => rfl
  | cons x xs ih =>
    show ufGo acc (ufGo (ufStep acc0 x) xs) = ufGo (ufStep (ufGo acc acc0) x) xs
    rw [ih, ufGo_ufStep]

theorem ufGo_ufGo (acc xs : List Rat) : ufGo acc (ufGo [] xs) = ufGo acc xs := ufGo_ufGo' acc [] xs

theorem ufGo_flatMap (acc : List Rat) (L : List (List Rat)) :
    ufGo acc (L.flatMap (ufGo [])) = ufGo acc L.flatten := by
  induction L generalizing acc with
  | nil => rfl
  | cons l L ih =>
    simp only [List.flatMap_cons, List.flatten_cons, ufGo_append, ufGo_ufGo, ih]

theorem ufGo_append_left (a b xs : List Rat) :
    ufGo (a ++ b) xs = a ++ ufGo b (xs.filter fun y => !a.contains y) := by
  induction xs generalizing b with
  | nil => rfl
  | cons x xs ih =>
    show ufGo (ufStep (a ++ b) x) xs = _
    by_cases ha : x ∈ a
    · have h1 : ufStep (a ++ b) x = a ++ b := by simp [ufStep, ha]
      rw [h1, ih]; simp [ha]
    · have h1 : ufStep (a ++ b) x = a ++ ufStep b x := by
        by_cases hb : x ∈ b <;> simp [ufStep, ha, hb]
      rw [h1, ih]; simp [ha, ufGo]

end Grp

theorem mem_uniqFirst (y : Rat) (l : List Rat) : y ∈ uniqFirst l ↔ y ∈ l := by
  rw [Grp.uniqFirst_eq, Grp.mem_ufGo]; simp

theorem nodup_uniqFirst (l : List Rat) : (uniqFirst l).Nodup := Grp.nodup_ufGo [] l List.nodup_nil

theorem uniqFirst_nil : uniqFirst [] = [] := rfl

/-- `pd.factorize(sort=False)` / `pd.unique` list in order of first appearance: with `uniqFirst_nil` this equation
    determines `uniqFirst`. -/
theorem uniqFirst_cons (x : Rat) (xs : List Rat) : uniqFirst (x :: xs) = x :: uniqFirst (xs.filter (· ≠ x)) := by
  have h : uniqFirst (x :: xs) = Grp.ufGo ([x] ++ []) xs := rfl
  rw [h, Grp.ufGo_append_left, Grp.uniqFirst_eq]
  simp

namespace Grp

/-- deduplication as done by `pd.factorize(sort=…)` -/
def uniqOf (sort : Bool) (xs : List Rat) : List Rat := if sort then uniqSorted xs else uniqFirst xs

theorem mem_uniqOf (sort : Bool) (y : Rat) (xs : List Rat) : y ∈ uniqOf sort xs ↔ y ∈ xs := by
  cases sort
  · exact mem_uniqFirst y xs
  · exact mem_uniqSorted y xs

theorem nodup_uniqOf (sort : Bool) (xs : List Rat) : (uniqOf sort xs).Nodup := by
  cases sort
  · exact nodup_uniqFirst xs
  · exact nodup_uniqSorted xs

theorem uniqOf_flatMap (sort : Bool) (L : List (List Rat)) :
    uniqOf sort (L.flatMap (uniqOf sort)) = uniqOf sort L.flatten := by
  cases sort
  · exact ufGo_flatMap [] L
  · apply sorted_ext _ _ (pairwise_uniqSorted _) (pairwise_uniqSorted _)
    intro y
    simp only [mem_uniqSorted, List.mem_flatMap, List.mem_flatten]
    constructor
    · rintro ⟨l, hl, hy⟩; exact ⟨l, hl, (mem_uniqSorted y l).mp hy⟩
    · rintro ⟨l, hl, hy⟩; exact ⟨l, hl, (mem_uniqSorted y l).mpr hy⟩

theorem uniqOf_nil (sort : Bool) : uniqOf sort [] = [] := by cases sort <;> rfl

theorem uniqOf_eq_nil_iff (sort : Bool) (xs : List Rat) : uniqOf sort xs = [] ↔ xs = [] := by
  constructor
  · intro h
    cases xs with
    | nil => rfl
    | cons x xs =>
      have : x ∈ uniqOf sort (x :: xs) := (mem_uniqOf sort x _).mpr (by simp)
      rw [h] at this; simp at this
  · rintro rfl; exact uniqOf_nil sort

/-- the code `factorize_` gives to a key -/
def codeOf (found : List Rat) (k : Key) : Int :=
  match k with
  | none => -1
  | some r => match indexOf? r found with
    | some i => (i : Int)
    | none => -1

end Grp

theorem lookupKey_eq_none_iff (g : Key) (G : List Key) : lookupKey g G = none ↔ g ∉ G := by
  induction G with
  | nil => simp [lookupKey]
  | cons h t ih =>
    unfold lookupKey
    by_cases e : h = g
    · simp [e]
    · have e' : ¬ g = h := fun x => e x.symm
      simp [e, e', ih]

theorem lookupKey_eq_some (g : Key) (G : List Key) (i : Nat) (h : lookupKey g G = some i) :
    ∃ hi : i < G.length, G[i] = g := by
  induction G generalizing i with
  | nil => simp [lookupKey] at h
  | cons x t ih =>
    rw [lookupKey] at h
    split at h
    · rename_i e; cases h; exact ⟨by simp, by simp [e]⟩
    · obtain ⟨j, hj, rfl⟩ := Option.map_eq_some_iff.mp h
      obtain ⟨hj', e⟩ := ih j hj
      exact ⟨by simpa using hj', by simpa using e⟩

theorem indexOf?_eq_lookupKey (r : Rat) (l : List Rat) : indexOf? r l = lookupKey (some r) (l.map some) := by
  induction l with
  | nil => rfl
  | cons y ys ih => simp only [indexOf?, lookupKey, List.map_cons, ih, Option.some.injEq, eq_comm]

theorem indexOf?_eq_none_iff (r : Rat) (l : List Rat) : indexOf? r l = none ↔ r ∉ l := by
  rw [indexOf?_eq_lookupKey, lookupKey_eq_none_iff]; simp

theorem indexOf?_isSome {r : Rat} {l : List Rat} (h : r ∈ l) : ∃ i, indexOf? r l = some i :=
  Option.ne_none_iff_exists'.mp fun e => (indexOf?_eq_none_iff r l).mp e h

theorem indexOf?_some {r : Rat} {l : List Rat} {i : Nat} (h : indexOf? r l = some i) :
    ∃ hi : i < l.length, l[i] = r := by
  obtain ⟨hi, e⟩ := lookupKey_eq_some _ _ i (indexOf?_eq_lookupKey r l ▸ h)
  exact ⟨by simpa using hi, by simpa using e⟩

theorem indexOf?_getElem {l : List Rat} (hnd : l.Nodup) (i : Nat) (hi : i < l.length) :
    indexOf? l[i] l = some i := by
  induction l generalizing i with
  | nil => simp at hi
  | cons y ys ih =>
    have hy := List.nodup_cons.mp hnd
    cases i with
    | zero => simp [indexOf?]
    | succ j =>
      have hj : j < ys.length := by simpa using hi
      have hne : ys[j] ≠ y := fun e => hy.1 (e ▸ List.getElem_mem hj)
      simp [indexOf?, hne, ih hy.2 j hj]

theorem reindexCol_nil (col : List Val) (to : List Key) (fill : Option Val) :
    reindexCol col [] to fill = some (to.map fun _ => fill.getD Val.nan) := rfl

theorem reindexCol_self (col : List Val) (G : List Key) (fill : Option Val) (hG : G ≠ []) :
    reindexCol col G G fill = some col := by
  have : G.isEmpty = false := by simpa using hG
  simp only [reindexCol, this, Bool.false_eq_true, if_false, if_true]

theorem reindexCol_lookup (col : List Val) (G T : List Key) (fill : Option Val) (hG : G ≠ []) (hGT : G ≠ T) :
    reindexCol col G T fill = T.mapM fun g =>
      match lookupKey g G with
      | some i => some (col.getD i Val.nan)
      | none => fill := by
  have : G.isEmpty = false := by simpa using hG
  simp only [reindexCol, this, Bool.false_eq_true, if_false, hGT]
  rfl

theorem mem_presentKeys (r : Rat) (keys : List Key) : r ∈ presentKeys keys ↔ some r ∈ keys := by
  simp [presentKeys]

theorem presentKeys_append (a b : List Key) : presentKeys (a ++ b) = presentKeys a ++ presentKeys b := by
  simp [presentKeys]

theorem presentKeys_map_some (l : List Rat) : presentKeys (l.map some) = l := by
  simp [presentKeys]

theorem presentKeys_eq_nil_iff (keys : List Key) : presentKeys keys = [] ↔ ∀ k ∈ keys, k = none := by
  simp [presentKeys, List.filterMap_eq_nil_iff]

theorem presentKeys_flatten (L : List (List Key)) : presentKeys L.flatten = (L.map presentKeys).flatten := by
  induction L with
  | nil => rfl
  | cons l L ih => simp [presentKeys_append, ih]

end Flox
