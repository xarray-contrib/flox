/-
  Non-vacuity examples and a counterexample for `FloxProofs/ArgCohorts.lean`.
-/
import FloxProofs.ArgCohorts
import FloxProofs.ArgEndToEnd

namespace Flox.Grp
namespace ACEx
open E2E AE2E

/-- two cohorts: labels 0 and 1 live in all three blocks, label 2 only in the last one; label 3 is in no cohort -/
def cs9 : List (List Nat × List Rat) := [([0, 1, 2], [0, 1]), ([2], [2])]

example : cohortsSoundB [3, 3, 3] c9 4 cs9 = true := by decide +kernel

example : runKnown (mkCall Rnanargmax .npg 4 2) (.cohorts cs9) true [3, 3, 3] (codeKeys c9) v9n
    = specResult .nanargmax Rnanargmax c9 v9n 4 :=
  cohorts_arg_eq_spec .nanargmax Rnanargmax (mkCall Rnanargmax .npg 4 2) 4 true [3, 3, 3] c9 v9n cs9 rfl rfl rfl
    (by decide +kernel) rfl (by decide) (cohortsSound_of_check _ _ _ _ (by decide +kernel)) (by decide +kernel)
    (by decide +kernel) ⟨fun _ _ _ => rfl, by decide +kernel⟩

/-- the indices are global although every cohort only sees its own blocks; label 3 → the fill -/
example : specResult .nanargmax Rnanargmax c9 v9n 4 = .ok [Val.fin 2, Val.fin 6, Val.fin 8, Val.fin (-1)] := by
  decide +kernel

/-- cohorts = map-reduce on the same input, other chunking -/
example : runKnown (mkCall Rnanargmax .npg 4 2) (.cohorts cs9) true [3, 3, 3] (codeKeys c9) v9n
    = runKnown (mkCall Rnanargmax .npg 4 2) (.mapreduce false) true [2, 2, 2, 2, 1] (codeKeys c9) v9n :=
  cohorts_arg_eq_mapreduce .nanargmax Rnanargmax (mkCall Rnanargmax .npg 4 2) 4 true [3, 3, 3] [2, 2, 2, 2, 1] c9 v9n
    cs9 rfl rfl rfl (by decide +kernel) (by decide +kernel) rfl (by decide) (by decide) (by decide) (by decide)
    (cohortsSound_of_check _ _ _ _ (by decide +kernel)) (by decide +kernel) (by decide +kernel) (by decide +kernel)
    ⟨fun _ _ _ => rfl, by decide +kernel⟩

def csA : List (List Nat × List Rat) := [([0], [2]), ([0, 1], [1]), ([1], [0])]

/-- the count mask with a fill value: `HCohortMask` holds -/
example : runKnown (mkCall Rnanargmax1 .npg 3 2) (.cohorts csA) true [2, 2] (codeKeys [2, 1, 0, 1])
      [.fin 3, .nan, .fin 5, .fin 4]
    = specResult .nanargmax Rnanargmax1 [2, 1, 0, 1] [.fin 3, .nan, .fin 5, .fin 4] 3 :=
  cohorts_arg_eq_spec .nanargmax Rnanargmax1 (mkCall Rnanargmax1 .npg 3 2) 3 true [2, 2] [2, 1, 0, 1]
    [.fin 3, .nan, .fin 5, .fin 4] csA rfl rfl rfl (by decide +kernel) rfl (by decide)
    (cohortsSound_of_check _ _ _ _ (by decide +kernel)) (by decide +kernel) (by decide +kernel)
    ⟨fun _ _ _ => rfl, by decide +kernel⟩

/-- Finding (model; `HCohortMask` is necessary).  `nanargmax`, `min_count=1`, no fill value, cohorts.  Blocks
    `[3₂, nan₁ | 5₀, 4₁]`; the cohort of label 2 consists of block 0 only, which also holds a part of label 1 (one NaN).
    Arg-reductions do not reindex the blocks to the cohort's labels, so `_finalize_results` applies the count mask to
    that foreign, partial group (0 valid members < 1) and raises "Filling is required", although every requested label
    has a valid member and the specification (and the same call with a fill value, or through map-reduce) succeeds.
    The cohort structure is sound and all other hypotheses hold. -/
theorem cohorts_arg_mask_counterexample :
    ArgFits .nanargmax Rnanargmax1n
    ∧ cohortsSoundB [2, 2] [2, 1, 0, 1] 3 csA = true
    ∧ (∀ g : Nat, g < 3 → HNotAllNaN .nanargmax Rnanargmax1n (members (Int.ofNat g) [2, 1, 0, 1]
        [.fin 3, .nan, .fin 5, .fin 4]))
    ∧ HDropped Rnanargmax1n [2, 1, 0, 1] [.fin 3, .nan, .fin 5, .fin 4]
    ∧ ¬ HCohortMask Rnanargmax1n
    ∧ runKnown (mkCall Rnanargmax1n .npg 3 2) (.cohorts csA) true [2, 2] (codeKeys [2, 1, 0, 1])
        [.fin 3, .nan, .fin 5, .fin 4] = .error "ValueError"
    ∧ specResult .nanargmax Rnanargmax1n [2, 1, 0, 1] [.fin 3, .nan, .fin 5, .fin 4] 3
        = .ok [Val.fin 2, Val.fin 3, Val.fin 0]
    ∧ runKnown (mkCall Rnanargmax1n .npg 3 2) (.mapreduce false) true [2, 2] (codeKeys [2, 1, 0, 1])
        [.fin 3, .nan, .fin 5, .fin 4] = .ok [Val.fin 2, Val.fin 3, Val.fin 0] := by
  decide +kernel

/-- `HCohortFill` holds in the counterexample as well -/
example : HCohortFill (mkCall Rnanargmax1n .npg 3 2) Rnanargmax1n 3 csA := ⟨fun _ _ _ => rfl, by decide +kernel⟩

end ACEx
end Flox.Grp
