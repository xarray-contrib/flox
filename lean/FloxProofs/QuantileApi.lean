/-
  The API layer of the grouped quantiles (C18): one `chunk_reduce` call (second factorisation, NaN-label
  sentinel) returns the specification's slots, for the eager path and for a block of the blockwise plan alike;
  the eager call `runEager` (validation of `q`, factorisation, assembling the result array) on top of it.
-/
import FloxProofs.Quantile
import FloxProofs.Dense
import FloxProofs.Uniq

namespace Flox
namespace Quantile

theorem factorize_codes_range (labels : List Key) :
    ∀ c ∈ (factorizeKeys labels none true).2,
      -1 ≤ c ∧ c < ((factorizeKeys labels none true).1.length : Int) := by
  intro c hc
  simp only [factorizeKeys, List.mem_map] at hc
  obtain ⟨k, _, rfl⟩ := hc
  simp only [factorizeKeys, if_true]
  cases k with
  | none =>
    dsimp only
    omega
  | some r =>
    dsimp only
    cases hi : indexOf? r (uniqSorted (presentKeys labels)) with
    | none =>
      dsimp only
      omega
    | some i =>
      obtain ⟨hlt, _⟩ := indexOf?_some hi
      dsimp only
      omega

theorem refactorize (codes : List Int) (n : Nat) (h : ∀ c ∈ codes, -1 ≤ c ∧ c < (n : Int)) :
    factorizeKeys (codes.map fun (c : Int) => if c = -1 then none else some (c : Rat)) (some n) true
      = ((List.range n).map fun (i : Nat) => (i : Rat), codes) := by
  simp only [factorizeKeys, List.map_map, Prod.mk.injEq, true_and]
  conv => rhs; rw [← List.map_id codes]
  apply List.map_congr_left
  intro c hc
  by_cases hne : c = -1
  · simp [hne]
  · simp only [Function.comp, if_neg hne, id]
    exact factorize_code c n (h c hc)

theorem engine_eq_grouped (eng : Eng) (skipna : Bool) (q : Rat) (hq0 : 0 ≤ q) (hq1 : q ≤ 1) (codes : List Int)
    (vals : List Val) (hfin : NoInf vals) (size : Nat) (fill : Val) :
    engine eng skipna q codes vals size fill = Spec.grouped skipna q codes vals size fill := by
  cases eng with
  | flox => exact engineFlox_eq_grouped skipna q hq0 hq1 codes vals hfin size fill
  | npg => rfl
  | numbagg => rfl

/-- the slots `chunk_reduce` returns for one `q` (sentinel slot dropped) are the specification's slots -/
theorem chunk_slots_eq_spec (eng : Eng) (skipna : Bool) (q : Rat) (hq0 : 0 ≤ q) (hq1 : q ≤ 1) (codes : List Int)
    (row : List Val) (hfin : NoInf row) (n : Nat) :
    (if codes.all (· == -1) then List.replicate n Val.nan
      else (engine eng skipna q (codes.map fun c => if c == -1 then (n : Int) else c) row
              (if codes.any (· == -1) then n + 1 else n) Val.nan).take n)
      = Spec.grouped skipna q codes row n Val.nan := by
  unfold Spec.grouped
  split
  · next hall =>
    have hall' : ∀ c ∈ codes, c = -1 := by simpa using hall
    have hrep : List.replicate n Val.nan = (List.range n).map fun _ => Val.nan := by
      rw [List.map_const', List.length_range]
    rw [hrep]
    apply List.map_congr_left
    intro g _
    rw [members_eq_nil_of_ne _ codes row fun c hc => by rw [hall' c hc, Int.ofNat_eq_natCast]; omega]
    rfl
  · rw [engine_eq_grouped eng skipna q hq0 hq1 _ row hfin, Spec.grouped, ← List.map_take, List.take_range]
    have hmin : min n (if codes.any (· == -1) then n + 1 else n) = n := by split <;> omega
    rw [hmin]
    apply List.map_congr_left
    intro g hg
    rw [members_bump g n (by simpa using hg)]

/-- `chunk_reduce` of the eager path (codes of `_factorize_multiple`, `RangeIndex` expected) against the spec -/
theorem chunkQuantile_eager (eng : Eng) (skipna : Bool) (qs : List Rat) (hq : ∀ q ∈ qs, 0 ≤ q ∧ q ≤ 1)
    (codes : List Int) (n : Nat) (h : ∀ c ∈ codes, -1 ≤ c ∧ c < (n : Int))
    (row : List Val) (hfin : NoInf row) :
    (chunkQuantile eng skipna qs (codes.map fun (c : Int) => if c = -1 then none else some (c : Rat)) row (some n)).2
      = qs.map fun q => Spec.grouped skipna q codes row n Val.nan := by
  simp only [chunkQuantile, refactorize codes n h, List.length_map, List.length_range]
  apply List.map_congr_left
  intro q hqm
  exact chunk_slots_eq_spec eng skipna q (hq q hqm).1 (hq q hqm).2 codes row hfin n

/-- the quantile levels a request asks for -/
def reqQs (rq : QRequest) : List Rat :=
  if rq.func.isQuantile then (match rq.q with | none => [] | some a => a.toList) else [(1 : Rat) / 2]

/-- the eager call (engine flox) once `q` has passed validation, with the specification's slots in place of the engine's -/
theorem runEager_of_validate (func : QFunc) (qa : Option QArg) (labels : List Key) (rows : List (List Val))
    (batch1d : Bool) (hfin : ∀ row ∈ rows, NoInf row) (qs : List Rat) (sc : Bool)
    (hqs : ∀ q ∈ qs, 0 ≤ q ∧ q ≤ 1) (hv : validate ⟨func, .flox, qa⟩ = .ok (qs, sc)) :
    runEager ⟨func, .flox, qa⟩ labels rows batch1d =
      (let (groups, codes) := factorizeKeys labels none true
       let per := rows.map fun row => qs.map fun q => Spec.grouped func.skipna q codes row groups.length Val.nan
       let (shape, vals) := assemble sc qs.length rows.length groups.length batch1d per
       QOutcome.ok { groups := groups.map some, shape := shape, vals := vals }) := by
  have hcodes := factorize_codes_range labels
  unfold runEager
  rw [hv]
  rcases hF : factorizeKeys labels none true with ⟨groups, codes⟩
  rw [hF] at hcodes
  simp only at hcodes
  have hper : (rows.map fun row =>
      (chunkQuantile Eng.flox func.skipna qs (codes.map fun (c : Int) => if c = -1 then none else some (c : Rat))
        row (some groups.length)).2)
      = rows.map fun row => qs.map fun q => Spec.grouped func.skipna q codes row groups.length Val.nan := by
    apply List.map_congr_left
    intro row hrow
    exact chunkQuantile_eager .flox func.skipna qs hqs codes groups.length hcodes row (hfin row hrow)
  simp only [hper]
  simp

theorem range_flatMap_get {α β} (l : List α) (H : α → List β) (K : Nat → List β)
    (hK : ∀ i (hi : i < l.length), K i = H l[i]) : (List.range l.length).flatMap K = l.flatMap H := by
  rw [List.flatMap_def, List.flatMap_def, map_range_eq_map rfl hK]

theorem chunkQuantile_snd (eng : Eng) (skipna : Bool) (qs : List Rat) (keys : List Key) (row : List Val)
    (expected : Option Nat) :
    (chunkQuantile eng skipna qs keys row expected).2
      = qs.map fun q => ((chunkQuantile eng skipna [q] keys row expected).2).getD 0 [] := by
  simp [chunkQuantile]

end Quantile
end Flox
