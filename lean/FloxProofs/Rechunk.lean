/-
  Proofs about the rechunking model (`FloxModel/Rechunk.lean`) for property C17.  Both helpers build a strictly increasing
  list of division points from `0` to the axis length and return its differences; `bounds_diff` says that such a list is
  exactly the list of boundaries of the returned chunks, which are valid.  For `optimal`, `optimal_struct` adds that for any
  labels every boundary is a `GoodBoundary` (the axis end, the first position of a label, or one past the last position of
  a label), and for sequential labels no label straddles such a boundary (`GoodBoundary.noStraddle`).
-/
import FloxModel.Rechunk
import FloxProofs.Members
import FloxProofs.InsertionSort

namespace Flox.Rechunk

theorem cumsumFrom_le (a : Nat) (cs : List Nat) : ∀ b ∈ cumsumFrom a cs, b ≤ a + cs.sum := by
  induction cs generalizing a with
  | nil => simp [cumsumFrom]
  | cons c cs ih =>
    simp only [cumsumFrom, List.mem_cons, List.sum_cons, forall_eq_or_imp, ← Nat.add_assoc]
    exact ⟨Nat.le_add_right _ _, ih (a + c)⟩

theorem cumsumFrom_pos (a : Nat) (cs : List Nat) (hpos : ∀ c ∈ cs, 0 < c) : ∀ b ∈ cumsumFrom a cs, a < b := by
  induction cs generalizing a with
  | nil => simp [cumsumFrom]
  | cons c cs ih =>
    rw [List.forall_mem_cons] at hpos
    simp only [cumsumFrom, List.mem_cons, forall_eq_or_imp]
    have hac : a < a + c := Nat.lt_add_of_pos_right (hpos.1)
    exact ⟨hac, fun b hb => Nat.lt_trans hac (ih (a + c) hpos.2 b hb)⟩

theorem cumsumFrom_shift (a : Nat) (cs : List Nat) : cumsumFrom a cs = (cumsumFrom 0 cs).map (a + ·) := by
  induction cs generalizing a with
  | nil => rfl
  | cons c cs ih =>
    simp only [cumsumFrom, List.map_cons, Nat.zero_add]
    rw [ih (a + c), ih c]
    simp [List.map_map, Nat.add_assoc]

theorem getLastD_cumsumFrom (a : Nat) (cs : List Nat) : (cumsumFrom a cs).getLastD a = a + cs.sum := by
  induction cs generalizing a with
  | nil => rfl
  | cons c cs ih => rw [cumsumFrom, List.getLastD_cons, ih, List.sum_cons, Nat.add_assoc]

theorem getLast?_bounds (cs : List Nat) : (bounds cs).getLast? = some cs.sum := by
  rw [bounds, List.getLast?_cons, ← List.getLastD_eq_getLast?, ends, cumsum, getLastD_cumsumFrom, Nat.zero_add]

theorem startsFrom_eq_dropLast (a : Nat) (cs : List Nat) : startsFrom a cs = (a :: cumsumFrom a cs).dropLast := by
  induction cs generalizing a with
  | nil => rfl
  | cons c cs ih => rw [startsFrom, cumsumFrom, List.dropLast_cons_cons, ih]

theorem starts_eq_dropLast (cs : List Nat) : starts cs = (bounds cs).dropLast :=
  startsFrom_eq_dropLast 0 cs

theorem pairwise_lt_cons_cons {a b : Nat} {xs : List Nat} (hab : a < b) (h : (b :: xs).Pairwise (· < ·)) :
    (a :: b :: xs).Pairwise (· < ·) :=
  List.pairwise_cons.2 ⟨List.forall_mem_cons.2 ⟨hab, fun _ hx => Nat.lt_trans hab (List.rel_of_pairwise_cons h hx)⟩, h⟩

theorem diff_increasing (a : Nat) (xs : List Nat) (h : (a :: xs).Pairwise (· < ·)) :
    (∀ c ∈ diff (a :: xs), 0 < c) ∧ cumsumFrom a (diff (a :: xs)) = xs := by
  induction xs generalizing a with
  | nil => simp [diff, cumsumFrom]
  | cons b ys ih =>
    have hab : a < b := List.rel_of_pairwise_cons h (by simp)
    obtain ⟨hpos, hcum⟩ := ih b h.of_cons
    simp only [diff, cumsumFrom, List.mem_cons, forall_eq_or_imp]
    exact ⟨⟨Nat.sub_pos_of_lt hab, hpos⟩, by rw [Nat.add_sub_of_le (Nat.le_of_lt hab), hcum]⟩

theorem bounds_diff {n : Nat} {bs : List Nat} (hinc : bs.Pairwise (· < ·)) (h0 : bs.head? = some 0)
    (hn : bs.getLast? = some n) : ValidChunks n (diff bs) ∧ bounds (diff bs) = bs := by
  match bs, h0 with
  | _ :: xs, rfl =>
    obtain ⟨hpos, hcum⟩ := diff_increasing 0 xs hinc
    have hb : bounds (diff (0 :: xs)) = 0 :: xs := congrArg (0 :: ·) hcum
    have hsum := getLast?_bounds (diff (0 :: xs))
    rw [hb, hn] at hsum
    exact ⟨⟨hpos, (Option.some.inj hsum).symm⟩, hb⟩

theorem closeIdx_cons_cons (n a b : Nat) (xs : List Nat) : closeIdx n (a :: b :: xs) = a :: closeIdx n (b :: xs) := by
  simp only [closeIdx, List.getLastD_cons]
  split <;> rfl

theorem closeIdx_increasing (n a : Nat) (xs : List Nat) (hinc : (a :: xs).Pairwise (· < ·)) (hle : ∀ x ∈ a :: xs, x ≤ n) :
    ∃ ys, closeIdx n (a :: xs) = a :: ys ∧ (a :: ys).Pairwise (· < ·) ∧ (a :: ys).getLast? = some n ∧
      ∀ y ∈ ys, y = n ∨ y ∈ xs := by
  induction xs generalizing a with
  | nil =>
    have : a ≤ n := hle a (by simp)
    by_cases h : a = n
    · exact ⟨[], by simp [closeIdx, h]⟩
    · exact ⟨[n], by simp [closeIdx, h]; omega⟩
  | cons b xs ih =>
    rw [List.forall_mem_cons] at hle
    obtain ⟨ys, e, hinc', hlast, hmem⟩ := ih b hinc.of_cons hle.2
    refine ⟨b :: ys, by rw [closeIdx_cons_cons, e], pairwise_lt_cons_cons (List.rel_of_pairwise_cons hinc (by simp)) hinc',
      by rwa [List.getLast?_cons_cons], ?_⟩
    simp only [List.mem_cons, forall_eq_or_imp, true_or, or_true, true_and]
    exact fun y hy => (hmem y hy).imp_right Or.inr

theorem optLoop_increasing (P : Nat → Prop) (ts : List (Nat × Nat × Nat)) (hts : ∀ t ∈ ts, P t.2.1 ∧ P (t.2.2 + 1))
    (last : Nat) : (last :: optLoop last ts).Pairwise (· < ·) ∧ ∀ x ∈ optLoop last ts, P x := by
  induction ts generalizing last with
  | nil => simp [optLoop]
  | cons t rest ih =>
    obtain ⟨c, f, l⟩ := t
    rw [List.forall_mem_cons] at hts
    have ih := ih hts.2
    unfold optLoop
    split
    · exact ih last
    · split
      · rename_i hf
        exact ⟨pairwise_lt_cons_cons hf.2 (ih f).1, List.forall_mem_cons.2 ⟨hts.1.1, (ih f).2⟩⟩
      · exact ⟨pairwise_lt_cons_cons (by omega) (ih (l + 1)).1, List.forall_mem_cons.2 ⟨hts.1.2, (ih (l + 1)).2⟩⟩

theorem firstIdx_spec (labels : List Nat) (v : Nat) (hv : v ∈ labels) :
    ∃ h : firstIdx labels v < labels.length, labels[firstIdx labels v] = v ∧
      ∀ i (hi : i < firstIdx labels v), labels[i]'(Nat.lt_trans hi h) ≠ v := by
  have hlt : labels.idxOf v < labels.length := List.idxOf_lt_length_iff.2 hv
  rw [firstIdx, if_pos hv]
  exact ⟨hlt, List.getElem_idxOf hlt, fun i hi => beq_eq_false_iff_ne.1 (List.not_of_lt_findIdx hi)⟩

theorem lastIdx_spec (labels : List Nat) (v : Nat) (hv : v ∈ labels) :
    ∃ h : lastIdx labels v < labels.length, labels[lastIdx labels v] = v ∧
      ∀ j (_ : lastIdx labels v < j) (hj : j < labels.length), labels[j] ≠ v := by
  have hlt : labels.reverse.idxOf v < labels.reverse.length := List.idxOf_lt_length_iff.2 (List.mem_reverse.2 hv)
  have hlt' : labels.reverse.idxOf v < labels.length := List.length_reverse ▸ hlt
  rw [lastIdx, if_pos hv]
  refine ⟨Nat.sub_one_sub_lt_of_lt hlt', ?_, fun j hj1 hj2 => ?_⟩
  · have h1 := List.getElem_idxOf hlt
    rwa [List.getElem_reverse] at h1
  · have hk : labels.length - 1 - j < labels.reverse.idxOf v := by omega
    have h2 := List.not_of_lt_findIdx hk
    rw [List.getElem_reverse] at h2
    simp only [Nat.sub_sub_self (Nat.le_sub_one_of_lt hj2)] at h2
    exact beq_eq_false_iff_ne.1 h2

theorem Contiguous.between {α} {labels : List α} (hc : Contiguous labels) {i j k : Nat} (hij : i ≤ j) (hjk : j ≤ k)
    (hk : k < labels.length) :
    have hj : j < labels.length := Nat.lt_of_le_of_lt hjk hk
    have hi : i < labels.length := Nat.lt_of_le_of_lt hij hj
    labels[i] = labels[k] → labels[j] = labels[i] := by
  intro hj hi h
  rcases Nat.eq_or_lt_of_le hij with rfl | hij
  · rfl
  · rcases Nat.eq_or_lt_of_le hjk with rfl | hjk
    · exact h.symm
    · exact hc i j k hij hjk hk h

theorem good_first (labels : List Nat) (hc : Contiguous labels) (v : Nat) (hv : v ∈ labels) :
    ∀ w ∈ labels.take (firstIdx labels v), w ∉ labels.drop (firstIdx labels v) := by
  obtain ⟨hlt, hat, hmin⟩ := firstIdx_spec labels v hv
  intro w hw1 hw2
  obtain ⟨i, hi, rfl⟩ := List.mem_take_iff_getElem.1 hw1
  obtain ⟨j, hj, hij⟩ := List.mem_drop_iff_getElem.1 hw2
  have hi' : i < firstIdx labels v := Nat.lt_of_lt_of_le hi (Nat.min_le_left _ _)
  have hj : firstIdx labels v + j < labels.length := Nat.add_comm j _ ▸ hj
  -- the label at `i` reappears at or after the run start, so it is the label of the run start
  have := hc.between (Nat.le_of_lt hi') (Nat.le_add_right _ j) hj hij.symm
  exact hmin i hi' (this.symm.trans hat)

theorem good_last (labels : List Nat) (hc : Contiguous labels) (v : Nat) (hv : v ∈ labels) :
    ∀ w ∈ labels.take (lastIdx labels v + 1), w ∉ labels.drop (lastIdx labels v + 1) := by
  obtain ⟨hlt, hat, hmax⟩ := lastIdx_spec labels v hv
  intro w hw1 hw2
  obtain ⟨i, hi, rfl⟩ := List.mem_take_iff_getElem.1 hw1
  obtain ⟨j, hj, hij⟩ := List.mem_drop_iff_getElem.1 hw2
  have hi' : i ≤ lastIdx labels v := Nat.le_of_lt_succ (Nat.lt_of_lt_of_le hi (Nat.min_le_left _ _))
  have hlj : lastIdx labels v < lastIdx labels v + 1 + j := Nat.lt_of_lt_of_le (Nat.lt_succ_self _) (Nat.le_add_right _ j)
  have hj : lastIdx labels v + 1 + j < labels.length := Nat.add_comm j _ ▸ hj
  -- the label at `i` reappears after the run end, so it is the label of the run end
  have := hc.between hi' (Nat.le_of_lt hlj) hj hij.symm
  exact hmax _ hlj hj (hij.trans (this.symm.trans hat))

theorem mem_insertSorted (v x : Nat) (ys : List Nat) : v ∈ insertSorted x ys ↔ v = x ∨ v ∈ ys :=
  mem_insert_of_eqns (lt := (· < ·)) (ins := insertSorted) (fun _ => rfl) (fun _ _ _ => rfl) v x ys

theorem mem_sortedUnique (v : Nat) (xs : List Nat) : v ∈ sortedUnique xs ↔ v ∈ xs :=
  mem_foldr_insert mem_insertSorted v xs

/-- `chunkidx[-1] + 1` is the axis length -/
theorem cidx_total {n : Nat} {chunks : List Nat} (hv : ValidChunks n chunks) (hne : chunks ≠ []) :
    ((cumsum chunks).map (· - 1)).getLastD 0 + 1 = n := by
  obtain ⟨c, cs, rfl⟩ := List.exists_cons_of_ne_nil hne
  have hc : 0 < c := hv.1 c (by simp)
  have hsum : c + cs.sum = n := by simpa using hv.2
  rw [cumsum, cumsumFrom, List.map_cons, List.getLastD_cons, List.getLastD_map (f := (· - 1)), getLastD_cumsumFrom,
    Nat.zero_add, hsum]
  exact Nat.sub_add_cancel (hsum ▸ Nat.le_add_right_of_le hc)

def GoodBoundary (labels : List Nat) (b : Nat) : Prop :=
  b = labels.length ∨ ∃ v ∈ labels, b = firstIdx labels v ∨ b = lastIdx labels v + 1

theorem GoodBoundary.le {labels : List Nat} {b : Nat} (h : GoodBoundary labels b) : b ≤ labels.length := by
  rcases h with rfl | ⟨v, hv, rfl | rfl⟩
  · exact Nat.le_refl _
  · exact let ⟨h, _⟩ := firstIdx_spec labels v hv; Nat.le_of_lt h
  · exact let ⟨h, _⟩ := lastIdx_spec labels v hv; h

theorem GoodBoundary.noStraddle {labels : List Nat} (hc : Contiguous labels) {b : Nat} (hb : GoodBoundary labels b) :
    ∀ w ∈ labels.take b, w ∉ labels.drop b := by
  rcases hb with rfl | ⟨v, hv, rfl | rfl⟩
  · simp
  · exact good_first labels hc v hv
  · exact good_last labels hc v hv

theorem optimal_struct (chunks labels : List Nat) (hv : ValidChunks labels.length chunks) :
    ValidChunks labels.length (optimal chunks labels) ∧
      ∀ b ∈ ends (optimal chunks labels), GoodBoundary labels b := by
  have hbl : ∀ v ∈ sortedUnique (((cumsum chunks).map (· - 1)).filterMap (labels[·]?)), v ∈ labels := by
    intro v hv'
    rw [mem_sortedUnique, List.mem_filterMap] at hv'
    obtain ⟨i, _, hi⟩ := hv'
    exact List.mem_of_getElem? hi
  unfold optimal
  simp only
  split
  · -- the chunks already end where labels end
    rename_i heq
    refine ⟨hv, fun b hb => ?_⟩
    have hbpos : 0 < b := cumsumFrom_pos 0 chunks hv.1 b hb
    have hmem : b - 1 ∈ (cumsum chunks).map (· - 1) := List.mem_map.2 ⟨b, hb, rfl⟩
    rw [heq, List.mem_map] at hmem
    obtain ⟨v, hvbl, hvl⟩ := hmem
    exact Or.inr ⟨v, hbl v hvbl, Or.inr (by rw [hvl, Nat.sub_add_cancel hbpos])⟩
  · rename_i hneq
    have hne : chunks ≠ [] := by rintro rfl; exact hneq rfl
    unfold optIdx
    simp only
    rw [cidx_total hv hne]
    generalize hts : List.zip _ _ = ts
    obtain ⟨hinc, hgood⟩ := optLoop_increasing (GoodBoundary labels) ts (by
      subst hts
      rintro ⟨c, f, l⟩ ht
      have h2 := (List.of_mem_zip ht).2
      obtain ⟨v, hv, rfl⟩ := List.mem_map.1 (List.of_mem_zip h2).1
      obtain ⟨w, hw, rfl⟩ := List.mem_map.1 (List.of_mem_zip h2).2
      exact ⟨Or.inr ⟨v, hbl v hv, Or.inl rfl⟩, Or.inr ⟨w, hbl w hw, Or.inr rfl⟩⟩) 0
    obtain ⟨ys, e, hinc', hlast, hmem⟩ := closeIdx_increasing labels.length 0 _ hinc
      (List.forall_mem_cons.2 ⟨Nat.zero_le _, fun x hx => (hgood x hx).le⟩)
    obtain ⟨hvalid, hbounds⟩ := bounds_diff hinc' rfl hlast
    rw [e, List.tail_eq_of_cons_eq hbounds]
    exact ⟨hvalid, fun b hb => (hmem b hb).elim Or.inl (hgood b)⟩

theorem ends_cons (c : Nat) (cs : List Nat) : ends (c :: cs) = c :: (ends cs).map (c + ·) := by
  rw [ends, cumsum, cumsumFrom, Nat.zero_add, cumsumFrom_shift]
  rfl

@[simp] theorem splitBy_nil {α} (xs : List α) : splitBy [] xs = [] := rfl

@[simp] theorem splitBy_cons {α} (c : Nat) (cs : List Nat) (xs : List α) :
    splitBy (c :: cs) xs = xs.take c :: splitBy cs (xs.drop c) := rfl

theorem oneBlockPerLabel_cons {α} (labels : List α) (c : Nat) (cs : List Nat) :
    OneBlockPerLabel labels (c :: cs) ↔
      (∀ blk ∈ splitBy cs (labels.drop c), ∀ v ∈ labels.take c, v ∉ blk) ∧ OneBlockPerLabel (labels.drop c) cs :=
  List.pairwise_cons

theorem splitBy_subset {α} (cs : List Nat) (xs : List α) : ∀ blk ∈ splitBy cs xs, ∀ v ∈ blk, v ∈ xs := by
  induction cs generalizing xs with
  | nil => simp
  | cons c cs ih =>
    simp only [splitBy_cons, List.mem_cons, forall_eq_or_imp]
    exact ⟨fun v => List.mem_of_mem_take, fun blk hblk v hv => List.mem_of_mem_drop (ih _ blk hblk v hv)⟩

theorem noStraddle_oneBlock {α} (labels : List α) (chunks : List Nat) (h : NoStraddle labels chunks) :
    OneBlockPerLabel labels chunks := by
  induction chunks generalizing labels with
  | nil => exact List.Pairwise.nil
  | cons c cs ih =>
    simp only [NoStraddle, ends_cons, List.mem_cons, List.mem_map, forall_eq_or_imp, forall_exists_index, and_imp,
      forall_apply_eq_imp_iff₂] at h
    rw [oneBlockPerLabel_cons]
    refine ⟨fun blk hblk v hv hvb => h.1 v hv (splitBy_subset cs _ blk hblk v hvb), ih _ fun b hb v hv hvd => ?_⟩
    refine h.2 b hb v ?_ ?_
    · rw [List.take_add]
      exact List.mem_append_right _ hv
    · rwa [List.drop_drop] at hvd

theorem cohLoop_sublist (forced : List Int) (old : List Nat) (cs : Nat) (ign : Bool) (rest : List Int) :
    ∀ idx counter, (cohLoop forced old cs ign idx rest counter).Sublist (List.range' idx rest.length) := by
  induction rest with
  | nil => exact fun _ _ => List.Sublist.slnil
  | cons lab tl ih =>
    intro idx counter
    rw [List.length_cons, List.range'_succ]
    unfold cohLoop
    split
    · exact (ih _ _).cons_cons _
    · split
      · exact (ih _ _).cons_cons _
      · exact (ih _ _).cons _

theorem mem_cohLoop (forced : List Int) (old : List Nat) (cs : Nat) (ign : Bool) (rest : List Int) :
    ∀ idx counter k (hk : k < rest.length), (idx + k = 0 ∨ rest[k] ∈ forced) ∨ (ign = false ∧ idx + k ∈ old) →
      idx + k ∈ cohLoop forced old cs ign idx rest counter := by
  induction rest with
  | nil => exact fun _ _ k hk => absurd hk (Nat.not_lt_zero k)
  | cons lab tl ih =>
    intro idx counter k hk hcond
    unfold cohLoop
    cases k with
    | zero =>
      split
      · exact List.mem_cons_self
      · rename_i hnf
        split
        · exact List.mem_cons_self
        · rename_i hno
          rcases hcond with h | ⟨hign, hold⟩
          · exact absurd h.symm hnf
          · exact absurd (by simp [hign, show idx ∈ old from hold]) hno
    | succ k =>
      rw [show idx + (k + 1) = idx + 1 + k from Nat.add_right_comm idx k 1] at hcond ⊢
      have hmem := fun counter => ih (idx + 1) counter k (Nat.lt_of_succ_lt_succ hk) hcond
      split
      · exact List.mem_cons_of_mem _ (hmem 1)
      · split
        · exact List.mem_cons_of_mem _ (hmem 1)
        · exact hmem _

theorem cohorts_eq_ok_iff (old : List Nat) (labels forced : List Int) (cs : Option Nat) (ign : Bool) (new : List Nat) :
    cohorts old labels forced cs ign = .ok new ↔
      labels.length = old.sum ∧ (∃ l ∈ labels, l ∈ forced) ∧
        diff (cohLoop forced (0 :: cumsum old) (cs.getD (medianInt old)) ign 0 labels 1 ++ [labels.length]) = new := by
  unfold cohorts
  by_cases hlen : labels.length = old.sum <;> by_cases hany : ∃ l ∈ labels, l ∈ forced <;>
    simp [hlen, hany]

theorem cohLoop_divisions (forced : List Int) (old : List Nat) (cs : Nat) (ign : Bool) (labels : List Int)
    (hne : labels ≠ []) :
    (cohLoop forced old cs ign 0 labels 1 ++ [labels.length]).Pairwise (· < ·) ∧
      (cohLoop forced old cs ign 0 labels 1).head? = some 0 ∧
      ∀ k (hk : k < labels.length), (k = 0 ∨ labels[k] ∈ forced) ∨ (ign = false ∧ k ∈ old) →
        k ∈ cohLoop forced old cs ign 0 labels 1 := by
  have hsub := cohLoop_sublist forced old cs ign labels 0 1
  refine ⟨List.pairwise_append.2 ⟨List.Pairwise.sublist hsub List.pairwise_lt_range', List.pairwise_singleton _ _, fun a ha b hb => ?_⟩,
    ?_, fun k hk hcond => ?_⟩
  · rw [List.mem_singleton.1 hb, ← Nat.zero_add labels.length]
    exact (List.mem_range'_1.1 (hsub.subset ha)).2
  · obtain ⟨lab, tl, rfl⟩ := List.exists_cons_of_ne_nil hne
    rw [cohLoop, if_pos (Or.inr rfl)]
    rfl
  · have := mem_cohLoop forced old cs ign labels 0 1 k hk
    rw [Nat.zero_add] at this
    exact this hcond

theorem cohorts_ok (old : List Nat) (labels forced : List Int) (cs : Option Nat) (ign : Bool) (new : List Nat)
    (h : cohorts old labels forced cs ign = .ok new) :
    ValidChunks labels.length new ∧ ForcedStart labels forced new ∧ (ign = false → KeepsOld old new) := by
  obtain ⟨hlen, ⟨l, hl, _⟩, rfl⟩ := (cohorts_eq_ok_iff old labels forced cs ign new).1 h
  obtain ⟨hinc, hhead, hmem⟩ :=
    cohLoop_divisions forced (0 :: cumsum old) (cs.getD (medianInt old)) ign labels (List.ne_nil_of_mem hl)
  obtain ⟨hvalid, hbounds⟩ := bounds_diff hinc (by rw [List.head?_append, hhead]; rfl) List.getLast?_concat
  refine ⟨hvalid, fun i hi hcond => ?_, fun hign b hb => ?_⟩
  · rw [starts_eq_dropLast, hbounds, List.dropLast_concat]
    exact hmem i hi (Or.inl hcond)
  · rw [hbounds]
    have hble : b ≤ labels.length := by
      rcases List.mem_cons.1 hb with rfl | hb
      · exact Nat.zero_le _
      · exact hlen ▸ Nat.zero_add old.sum ▸ cumsumFrom_le 0 old b hb
    rcases Nat.eq_or_lt_of_le hble with rfl | hlt
    · exact List.mem_append_right _ List.mem_cons_self
    · exact List.mem_append_left _ (hmem b hlt (Or.inr ⟨hign, hb⟩))

theorem mem_insertSortedInt (v x : Int) (ys : List Int) : v ∈ insertSortedInt x ys ↔ v = x ∨ v ∈ ys :=
  mem_insert_of_eqns (lt := (· < ·)) (ins := insertSortedInt) (fun _ => rfl) (fun _ _ _ => rfl) v x ys

theorem mem_foundGroups (x : Int) (raw : List (Option Int)) : x ∈ foundGroups raw ↔ some x ∈ raw := by
  simp [foundGroups, mem_foldr_insert mem_insertSortedInt]

theorem codeOf_inj (raw : List (Option Int)) :
    ∀ a ∈ raw, ∀ b ∈ raw, codeOf (foundGroups raw) a = codeOf (foundGroups raw) b → a = b := by
  intro a ha b hb h
  have hlt : ∀ x, some x ∈ raw → (foundGroups raw).idxOf x < (foundGroups raw).length :=
    fun x hx => List.idxOf_lt_length_iff.2 ((mem_foundGroups x raw).2 hx)
  cases a <;> cases b <;> simp only [codeOf] at h
  · rfl
  · have := hlt _ hb; omega
  · have := hlt _ ha; omega
  · rename_i x y
    -- both are the element of `foundGroups raw` at the same index
    have := List.getElem_idxOf (hlt x ha)
    simp only [h, List.getElem_idxOf (hlt y hb)] at this
    rw [this]

@[simp] theorem length_factorize (raw : List (Option Int)) : (factorize raw).length = raw.length :=
  List.length_map _

theorem contiguous_map {α β} (f : α → β) (l : List α) (hinj : ∀ a ∈ l, ∀ b ∈ l, f a = f b → a = b)
    (hc : Contiguous l) : Contiguous (l.map f) := by
  intro i j k hij hjk hk heq
  have hk' : k < l.length := List.length_map f ▸ hk
  rw [List.getElem_map, List.getElem_map] at heq ⊢
  exact congrArg f (hc i j k hij hjk hk' (hinj _ (List.getElem_mem _) _ (List.getElem_mem _) heq))

theorem contiguous_factorize (raw : List (Option Int)) (hc : Contiguous raw) : Contiguous (factorize raw) :=
  contiguous_map _ raw (codeOf_inj raw) hc

theorem noStraddle_of_map {α β} (f : α → β) (l : List α) (chunks : List Nat) (h : NoStraddle (l.map f) chunks) :
    NoStraddle l chunks := by
  intro b hb v hv hvd
  refine h b hb (f v) ?_ ?_
  · rw [← List.map_take]; exact List.mem_map_of_mem hv
  · rw [← List.map_drop]; exact List.mem_map_of_mem hvd

/-- per-block member lists, in block order -/
def blockMembers (g : Int) (chunks : List Nat) (codes : List Int) (vals : List Val) : List (List Val) :=
  List.zipWith (members g) (splitBy chunks codes) (splitBy chunks vals)

@[simp] theorem blockMembers_nil (g : Int) (codes : List Int) (vals : List Val) : blockMembers g [] codes vals = [] := rfl

@[simp] theorem blockMembers_cons (g : Int) (c : Nat) (cs : List Nat) (codes : List Int) (vals : List Val) :
    blockMembers g (c :: cs) codes vals =
      members g (codes.take c) (vals.take c) :: blockMembers g cs (codes.drop c) (vals.drop c) := rfl

theorem members_eq_flatten_blocks (g : Int) (chunks : List Nat) (codes : List Int) (vals : List Val)
    (hlen : codes.length = vals.length) (hsum : chunks.sum = codes.length) :
    members g codes vals = (blockMembers g chunks codes vals).flatten := by
  induction chunks generalizing codes vals with
  | nil =>
    obtain rfl : codes = [] := by simpa using hsum.symm
    simp
  | cons c cs ih =>
    rw [List.sum_cons] at hsum
    rw [blockMembers_cons, List.flatten_cons, ← ih (codes.drop c) (vals.drop c) (by simp [hlen]) (by simp; omega),
      ← members_append g _ _ _ _ (by simp [hlen]), List.take_append_drop, List.take_append_drop]

theorem blockMembers_at_most_one (g : Int) (chunks : List Nat) (codes : List Int) (vals : List Val)
    (h : OneBlockPerLabel codes chunks) :
    (blockMembers g chunks codes vals).Pairwise fun a b => a ≠ [] → b = [] := by
  induction chunks generalizing codes vals with
  | nil => exact List.Pairwise.nil
  | cons c cs ih =>
    rw [oneBlockPerLabel_cons] at h
    rw [blockMembers_cons, List.pairwise_cons]
    refine ⟨fun b hb hne => ?_, ih (codes.drop c) (vals.drop c) h.2⟩
    -- `b` is the member list of a later block; were it non-empty, `g` would be a label of both blocks
    rw [blockMembers] at hb
    obtain ⟨i, hi, rfl⟩ := List.mem_iff_getElem.1 hb
    rw [List.getElem_zipWith]
    exact Classical.byContradiction fun hb' =>
      h.1 _ (List.getElem_mem _) g (mem_of_members_ne_nil g _ _ hne) (mem_of_members_ne_nil g _ _ hb')

theorem contiguous_cons_iff {α} (x : α) (xs : List α) :
    Contiguous (x :: xs) ↔ Contiguous xs ∧ (match xs with
      | [] => True
      | y :: _ => x = y ∨ x ∉ xs) := by
  constructor
  · intro h
    refine ⟨fun i j k hij hjk hk heq =>
      h (i + 1) (j + 1) (k + 1) (Nat.succ_lt_succ hij) (Nat.succ_lt_succ hjk) (Nat.succ_lt_succ hk) heq, ?_⟩
    cases xs with
    | nil => trivial
    | cons y ys =>
      by_cases hx : x ∈ y :: ys
      · -- `x` reappears at `m + 1`, so it also stands at position 1
        obtain ⟨m, hm, hxm⟩ := List.mem_iff_getElem.1 hx
        exact Or.inl (h.between (i := 0) (j := 1) (k := m + 1) (Nat.zero_le 1) (Nat.succ_le_succ (Nat.zero_le m))
          (Nat.succ_lt_succ hm) hxm.symm).symm
      · exact Or.inr hx
  · rintro ⟨hc, hcond⟩ i j k hij hjk hk heq
    obtain ⟨j, rfl⟩ := Nat.exists_eq_add_one_of_ne_zero (Nat.ne_zero_of_lt hij)
    obtain ⟨k, rfl⟩ := Nat.exists_eq_add_one_of_ne_zero (Nat.ne_zero_of_lt hjk)
    have hk' : k < xs.length := Nat.lt_of_succ_lt_succ hk
    have hjk' : j < k := Nat.lt_of_succ_lt_succ hjk
    cases i with
    | succ i => exact hc i j k (Nat.lt_of_succ_lt_succ hij) hjk' hk' heq
    | zero =>
      -- `x` reappears in `xs`, so `xs` starts with `x`, and `xs[j]` lies between two `x`s
      have hx : x ∈ xs := List.mem_of_getElem heq.symm
      cases xs with
      | nil => exact absurd hk' (Nat.not_lt_zero k)
      | cons y ys =>
        obtain rfl : x = y := hcond.resolve_right (fun h => h hx)
        exact hc.between (i := 0) (Nat.zero_le j) (Nat.le_of_lt hjk') hk' heq

theorem contiguousB_cons {α} [DecidableEq α] (x : α) (xs : List α) :
    contiguousB (x :: xs) = (contiguousB xs && (match xs with
        | [] => true
        | y :: _ => decide (x = y) || !(xs.contains x))) := by
  cases xs <;> rfl

theorem contiguousB_iff {α} [DecidableEq α] (l : List α) : contiguousB l = true ↔ Contiguous l := by
  induction l with
  | nil => exact ⟨fun _ i j k _ _ hk => absurd hk (Nat.not_lt_zero k), fun _ => rfl⟩
  | cons x xs ih =>
    rw [contiguous_cons_iff, ← ih, contiguousB_cons]
    cases xs <;> simp

theorem oneBlockB_go_iff {α} [DecidableEq α] (bs : List (List α)) :
    oneBlockB.go bs = true ↔ bs.Pairwise fun a b => ∀ v ∈ a, v ∉ b := by
  induction bs with
  | nil => simp [oneBlockB.go]
  | cons a rest ih =>
    rw [List.pairwise_cons, ← ih, oneBlockB.go]
    simp [List.all_eq_true]

theorem oneBlockB_iff {α} [DecidableEq α] (labels : List α) (chunks : List Nat) :
    oneBlockB labels chunks = true ↔ OneBlockPerLabel labels chunks :=
  oneBlockB_go_iff _

instance {α} [DecidableEq α] (l : List α) : Decidable (Contiguous l) :=
  decidable_of_iff _ (contiguousB_iff l)

instance {α} [DecidableEq α] (labels : List α) (chunks : List Nat) : Decidable (OneBlockPerLabel labels chunks) :=
  decidable_of_iff _ (oneBlockB_iff labels chunks)

end Flox.Rechunk
