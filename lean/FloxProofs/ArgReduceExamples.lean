/-
  Non-vacuity examples and counterexamples for `FloxProofs/ArgReduce.lean`.
-/
import FloxProofs.ArgReduce
import FloxProofs.EndToEndExamples

namespace Flox.Grp
namespace AEx
open E2E

/-- three blocks of (value, global index) pairs of one label; a NaN in the last block -/
def pssA : List (List VI) :=
  [[(.fin 1, .fin 0), (.fin 5, .fin 2)], [(.fin 5, .fin 4)], [(.fin 2, .fin 7), (.nan, .fin 8), (.fin 9, .fin 9)]]

example : combinePair .argmax (.fin 99) (pssA.map fun ps => blockPair .argmax (.fin 77) ps)
    = blockPair .argmax (.fin 55) pssA.flatten :=
  pairLaw_arg .argmax (Or.inl rfl) (fun _ => .fin 77) (.fin 99) (.fin 55) pssA (by decide) (by decide +kernel)

/-- the common value is (NaN, index of the first NaN): NumPy's `argmax` propagates NaN -/
example : blockPair .argmax (.fin 55) pssA.flatten = (.nan, .fin 8) := by decide +kernel
example : blockPair .argmin (.fin 55) (pssA.flatten.filter fun p => !p.1.isNaN) = (.fin 1, .fin 0) := by
  decide +kernel

/-- blocks for `nanargmax`: the first block is all-NaN for the label (junk pair), ties are broken to the left -/
def pssN : List (List VI) :=
  [[(.nan, .fin 0), (.nan, .fin 1)], [(.fin 3, .fin 2), (.nan, .fin 3)], [(.fin 3, .fin 5), (.ninf, .fin 6)]]

example : HArgFill .nanargmax (pssN.flatten.map (·.1)) := by decide +kernel

example : combinePair .nanargmax (.fin 99) (pssN.map fun ps => blockPair .nanargmax ((ps.headD (.nan, .nan)).2) ps)
    = blockPair .nanargmax (.fin 55) pssN.flatten :=
  pairLaw_nanarg .nanargmax (Or.inl rfl) (fun ps => (ps.headD (.nan, .nan)).2) (.fin 99) (.fin 55) pssN (by decide)
    (by decide +kernel)

example : blockPair .nanargmax (.fin 55) pssN.flatten = (.fin 3, .fin 2) := by decide +kernel

/-- `HArgFill` is necessary for the pair law: the label is all-NaN in the first block (junk pair `(-inf, 0)`) and
    its only valid member is a genuine `-inf` in the second block: (max, argmax) keeps the junk index 0. -/
theorem pairLaw_nanarg_counterexample :
    let pss : List (List VI) := [[(.nan, .fin 0), (.nan, .fin 1)], [(.nan, .fin 2), (.ninf, .fin 3)]]
    ¬ HArgFill .nanargmax (pss.flatten.map (·.1))
    ∧ combinePair .nanargmax (.fin 99) (pss.map fun ps => blockPair .nanargmax ((ps.headD (.nan, .nan)).2) ps)
        = (.ninf, .fin 0)
    ∧ blockPair .nanargmax (.fin 55) pss.flatten = (.ninf, .fin 3) := by decide +kernel

/-- `argmax` as `_initialize_aggregation` resolves it (float data, `fill_value=-1`) -/
def Rargmax : Resolved :=
  { name := "argmax", numpy := [.argmax], chunk := [.max, .argmax], combine := [.max, .argmax],
    interFills := [Val.ninf, Val.zero], numpyFills := [Val.zero], finalFill := some (Val.fin (-1)),
    userFill := some (Val.fin (-1)), minCount := 0, finalize := "second", ddof := 0, isArg := true }

/-- `nanargmax` as flox resolved it before commit 41daa06: combine `(max, argmax)`, value fill `-inf` -/
def Rnanargmax : Resolved :=
  { name := "nanargmax", numpy := [.nanargmax], chunk := [.nanmax, .nanargmax], combine := [.max, .argmax],
    interFills := [Val.ninf, Val.zero], numpyFills := [Val.zero], finalFill := some (Val.fin (-1)),
    userFill := some (Val.fin (-1)), minCount := 0, finalize := "second", ddof := 0, isArg := true }

/-- the same with `min_count=1` (count column appended) -/
def Rnanargmax1 : Resolved :=
  { name := "nanargmax", numpy := [.nanargmax, .nanlen], chunk := [.nanmax, .nanargmax, .nanlen],
    combine := [.max, .argmax, .sum], interFills := [Val.ninf, Val.zero, Val.zero],
    numpyFills := [Val.zero, Val.zero], finalFill := some (Val.fin (-1)), userFill := some (Val.fin (-1)),
    minCount := 1, finalize := "second", ddof := 0, isArg := true }

def Rnanargmin : Resolved :=
  { name := "nanargmin", numpy := [.nanargmin], chunk := [.nanmin, .nanargmin], combine := [.min, .argmin],
    interFills := [Val.pinf, Val.zero], numpyFills := [Val.zero], finalFill := some (Val.fin (-1)),
    userFill := some (Val.fin (-1)), minCount := 0, finalize := "second", ddof := 0, isArg := true }

example : useGroupedCombine (mkCall Rargmax .npg 4 2) true = true := by decide +kernel

def c9 : List Int := [0, 1, 0, 1, 0, -1, 1, 0, 2]
def v9 : List Val := [.fin 1, .fin 5, .fin 3, .fin 5, .fin 3, .fin 9, .fin 2, .fin 0, .fin 4]
def v9n : List Val := [.nan, .fin 5, .fin 3, .nan, .fin 3, .fin 9, .fin 7, .nan, .fin 4]

/-- C06 on concrete inputs (not a general proof): three chunkings / trees of `argmax` agree with the specification;
    the result is a real one (ties → first occurrence, absent label → fill) -/
example : runKnown (mkCall Rargmax .npg 4 2) (.mapreduce false) true [3, 3, 3] (codeKeys c9) v9
      = specResult .argmax Rargmax c9 v9 4
    ∧ runKnown (mkCall Rargmax .npg 4 2) (.mapreduce false) true [1, 1, 1, 1, 1, 1, 1, 1, 1] (codeKeys c9) v9
      = specResult .argmax Rargmax c9 v9 4
    ∧ runKnown (mkCall Rargmax .npg 4 3) (.mapreduce false) true [9] (codeKeys c9) v9
      = specResult .argmax Rargmax c9 v9 4
    ∧ specResult .argmax Rargmax c9 v9 4 = .ok [Val.fin 2, Val.fin 1, Val.fin 8, Val.fin (-1)] := by
  decide +kernel

/-- `nanargmax` with all-NaN blocks but every label's maximum above `-inf`: correct -/
example : runKnown (mkCall Rnanargmax .npg 3 2) (.mapreduce false) true [1, 3, 3, 2] (codeKeys c9) v9n
      = specResult .nanargmax Rnanargmax c9 v9n 3
    ∧ specResult .nanargmax Rnanargmax c9 v9n 3 = .ok [Val.fin 2, Val.fin 6, Val.fin 8] := by
  decide +kernel

/-- Finding (the blueprint before flox commit 41daa06): `nanargmax` through `_grouped_combine` returns a wrong index
    when a label is all-NaN in one block and its genuine maximum is `-inf`: the all-NaN block contributes the junk pair
    (`-inf`, global index of the block's first element), and the combine's `argmax` keeps the first `-inf`.
    Here the data are `[nan, nan | nan, -inf]`, all with label 0: flox answers 0 (a NaN element), NumPy's
    `nanargmax` answers 3.  Every hypothesis one could reasonably ask for holds (one label, present, has a valid
    member); only `HArgFill` fails. -/
theorem nanargmax_grouped_counterexample :
    CodesOK [0, 0, 0, 0] 1
    ∧ ¬ HArgFill .nanargmax (members 0 [0, 0, 0, 0] [.nan, .nan, .nan, .ninf])
    ∧ runKnown (mkCall Rnanargmax .npg 1 2) (.mapreduce false) true [2, 2] (codeKeys [0, 0, 0, 0])
        [.nan, .nan, .nan, .ninf] = .ok [Val.fin 0]
    ∧ specResult .nanargmax Rnanargmax [0, 0, 0, 0] [.nan, .nan, .nan, .ninf] 1 = .ok [Val.fin 3]
    ∧ runKnown (mkCall Rnanargmax .npg 1 2) (.mapreduce false) true [4] (codeKeys [0, 0, 0, 0])
        [.nan, .nan, .nan, .ninf] = .ok [Val.fin 3] := by decide +kernel

/-- the junk index is the block's first element *whatever its label*: label 0 gets index 0, which belongs to label 1 -/
theorem nanargmax_grouped_counterexample_other_label :
    runKnown (mkCall Rnanargmax .npg 2 2) (.mapreduce false) true [2, 2] (codeKeys [1, 0, 0, 0])
        [.fin 3, .nan, .nan, .ninf] = .ok [Val.fin 0, Val.fin 0]
    ∧ specResult .nanargmax Rnanargmax [1, 0, 0, 0] [.fin 3, .nan, .nan, .ninf] 2 = .ok [Val.fin 3, Val.fin 0] := by
  decide +kernel

/-- the count mask (`min_count=1`) does not help: the label has one valid member -/
theorem nanargmax_grouped_counterexample_mincount :
    runKnown (mkCall Rnanargmax1 .npg 1 2) (.mapreduce false) true [2, 2] (codeKeys [0, 0, 0, 0])
        [.nan, .nan, .nan, .ninf] = .ok [Val.fin 0]
    ∧ specResult .nanargmax Rnanargmax1 [0, 0, 0, 0] [.nan, .nan, .nan, .ninf] 1 = .ok [Val.fin 3] := by
  decide +kernel

/-- the mirror image for `nanargmin` and `+inf` -/
theorem nanargmin_grouped_counterexample :
    runKnown (mkCall Rnanargmin .npg 1 2) (.mapreduce false) true [2, 2] (codeKeys [0, 0, 0, 0])
        [.nan, .nan, .nan, .pinf] = .ok [Val.fin 0]
    ∧ specResult .nanargmin Rnanargmin [0, 0, 0, 0] [.nan, .nan, .nan, .pinf] 1 = .ok [Val.fin 3] := by
  decide +kernel

/-- an all-NaN label (excluded by `HArgFill`; NumPy raises "All-NaN slice"): the model returns the first index of the
    first block that contains the label, the specification (first member) happens to agree only if that element has
    the label -/
theorem nanargmax_allnan_counterexample :
    runKnown (mkCall Rnanargmax .npg 2 2) (.mapreduce false) true [2, 2] (codeKeys [1, 0, 0, 1])
        [.fin 3, .nan, .nan, .fin 4] = .ok [Val.fin 0, Val.fin 3]
    ∧ specResult .nanargmax Rnanargmax [1, 0, 0, 1] [.fin 3, .nan, .nan, .fin 4] 2 = .ok [Val.fin 1, Val.fin 3] := by
  decide +kernel

end AEx
end Flox.Grp
