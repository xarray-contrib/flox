/-
  C10: dask's Blelloch prefix scan is a prefix scan for EVERY number of carried states:
  `validTrees (blellochTrees n) = true` for all `n` (`blellochTrees_valid`).
  Invariant (`Inv pv lo`): entry `i` of `prefix_vals` brackets the consecutive blocks `lo i, …, i`; `lo` is `loUp` during
  the up-sweep and `loDown` during the down-sweep.  The down-sweep level with stride `2^j` writes the odd multiples
  `≥ 3 * 2^j` of `2^j`, whose left neighbour is a multiple of `2^(j+1)`; after stride `1` everything is complete.
-/
import FloxModel.Scan

namespace Flox
namespace Scan

/-- `t` brackets exactly the block indices `a, a+1, …, b-1`, in this order -/
def Spans (t : BTree) (a b : Nat) : Prop := a < b ∧ t.leaves = List.range' a (b - a)

theorem Spans.leaf (i : Nat) : Spans (.leaf i) i (i + 1) :=
  ⟨Nat.lt_succ_self i, by rw [Nat.add_sub_cancel_left]; rfl⟩

theorem Spans.node {l r : BTree} {a b c : Nat} : Spans l a b → Spans r b c → Spans (.node l r) a c := by
  intro ⟨hab, hl⟩ ⟨hbc, hr⟩
  refine ⟨Nat.lt_trans hab hbc, ?_⟩
  have h : c - a = (b - a) + (c - b) := by omega
  rw [BTree.leaves, hl, hr, h, ← List.range'_append_1, Nat.add_sub_cancel' (Nat.le_of_lt hab)]

/-- the step of both sweeps: entry `i`, so far the blocks `i + 1 - s, …, i`, absorbs entry `i - s` -/
theorem Spans.absorb {l r : BTree} {a s i : Nat} (hs : s ≤ i) (hl : Spans l a (i - s + 1))
    (hr : Spans r (i + 1 - s) (i + 1)) : Spans (.node l r) a (i + 1) := by
  have e : i + 1 - s = i - s + 1 := by omega
  rw [e] at hr
  exact hl.node hr

/-- entry `i` of `pv` brackets the blocks `lo i, …, i` -/
def Inv (pv : Array BTree) (lo : Nat → Nat) : Prop :=
  ∀ i, i < pv.size → Spans pv[i]! (lo i) (i + 1)

theorem getElem!_set! {pv : Array BTree} {i j : Nat} {v : BTree} (hj : j < pv.size) :
    (pv.set! i v)[j]! = if i = j then v else pv[j]! := by
  have hj' : j < (pv.setIfInBounds i v).size := by rw [Array.size_setIfInBounds]; exact hj
  rw [Array.set!_eq_setIfInBounds, getElem!_pos _ j hj', getElem!_pos pv j hj,
    Array.getElem_setIfInBounds]

/-- the positions written by `for i in range(start, n, stride2)` -/
abbrev Hit (start stride2 i : Nat) : Prop := start ≤ i ∧ (i - start) % stride2 = 0

/-- two written positions are at least `stride2` apart -/
theorem Hit.not_sub_stride {start stride stride2 i : Nat} (hs : 0 < stride) (hs2 : stride < stride2)
    (hst : stride ≤ start) (h : Hit start stride2 i) : ¬ Hit start stride2 (i - stride) := by
  intro ⟨h1', h2'⟩
  obtain ⟨h1, h2⟩ := h
  have hd : stride2 ∣ (i - start) - (i - stride - start) :=
    Nat.dvd_sub (Nat.dvd_of_mod_eq_zero h2) (Nat.dvd_of_mod_eq_zero h2')
  have hle := Nat.le_of_dvd (by omega) hd
  omega

/-- the body of the loop in `sweepLevel` -/
def sweepStep (start stride stride2 : Nat) (pv : Array BTree) (i : Nat) : Array BTree :=
  if Hit start stride2 i then pv.set! i (.node (pv[i - stride]!) (pv[i]!)) else pv

theorem sweepStep_spec (start stride stride2 m : Nat) (pv : Array BTree) :
    (sweepStep start stride stride2 pv m).size = pv.size ∧ ∀ i, i < pv.size →
      (sweepStep start stride stride2 pv m)[i]!
        = if m = i ∧ Hit start stride2 m then .node pv[m - stride]! pv[m]! else pv[i]! := by
  unfold sweepStep
  by_cases hH : Hit start stride2 m
  · rw [if_pos hH]
    refine ⟨by rw [Array.set!_eq_setIfInBounds, Array.size_setIfInBounds], fun i hi => ?_⟩
    rw [getElem!_set! hi]
    simp only [and_iff_left hH]
  · rw [if_neg hH]
    exact ⟨rfl, fun i _ => (if_neg (fun h => hH h.2)).symm⟩

/-- the left neighbour `i - stride` of a written position is not written at this level (`Hit.not_sub_stride`), so the
    loop reads the old entry there -/
theorem sweepLevel_spec {start stride stride2 : Nat} {pv : Array BTree} (hs : 0 < stride) (hs2 : stride < stride2)
    (hst : stride ≤ start) :
    (sweepLevel start stride stride2 pv).size = pv.size ∧ ∀ i, i < pv.size →
      (sweepLevel start stride stride2 pv)[i]!
        = if Hit start stride2 i then .node pv[i - stride]! pv[i]! else pv[i]! := by
  have hprefix : ∀ m, m ≤ pv.size →
      ((List.range m).foldl (sweepStep start stride stride2) pv).size = pv.size ∧ ∀ i, i < pv.size →
        ((List.range m).foldl (sweepStep start stride stride2) pv)[i]!
          = if i < m ∧ Hit start stride2 i then .node pv[i - stride]! pv[i]! else pv[i]! := by
    intro m
    induction m with
    | zero => exact fun _ => ⟨rfl, fun i _ => (if_neg (fun h => Nat.not_lt_zero i h.1)).symm⟩
    | succ m ih =>
      intro hm
      obtain ⟨hsz, hget⟩ := ih (Nat.le_of_succ_le hm)
      rw [List.range_succ, List.foldl_append, List.foldl_cons, List.foldl_nil]
      generalize (List.range m).foldl (sweepStep start stride stride2) pv = pv' at hsz hget ⊢
      obtain ⟨hsz', hget'⟩ := sweepStep_spec start stride stride2 m pv'
      refine ⟨hsz'.trans hsz, fun i hi => ?_⟩
      rw [hget' i (by omega)]
      by_cases him : m = i ∧ Hit start stride2 m
      · obtain ⟨rfl, hH⟩ := him
        have hnot := hH.not_sub_stride hs hs2 hst
        rw [if_pos ⟨rfl, hH⟩, if_pos ⟨Nat.lt_succ_self m, hH⟩, hget m hi, hget (m - stride) (by omega)]
        simp only [Nat.lt_irrefl, hnot, false_and, and_false, if_false]
      · have hiff : (i < m + 1 ∧ Hit start stride2 i) ↔ (i < m ∧ Hit start stride2 i) :=
          ⟨fun h => ⟨Nat.lt_of_le_of_ne (Nat.le_of_lt_succ h.1) (fun e => him ⟨e.symm, e ▸ h.2⟩), h.2⟩,
            fun h => ⟨Nat.lt_succ_of_lt h.1, h.2⟩⟩
        rw [if_neg him, hget i hi]
        simp only [hiff]
  obtain ⟨hsz, hget⟩ := hprefix pv.size (Nat.le_refl _)
  refine ⟨hsz, fun i hi => (hget i hi).trans ?_⟩
  simp only [hi, true_and]

/-- left end of entry `i` after the up-sweep levels with strides `1, 2, …, 2^(k-1)`:
    `i + 1 - 2^j` for the largest `j ≤ k` with `2^j ∣ i + 1` -/
def loUp : Nat → Nat → Nat
  | 0, i => i
  | k + 1, i => if 2 ^ (k + 1) ∣ i + 1 then i + 1 - 2 ^ (k + 1) else loUp k i

theorem loUp_of_dvd {k i : Nat} (h : 2 ^ k ∣ i + 1) : loUp k i = i + 1 - 2 ^ k := by
  cases k with
  | zero => simp only [loUp, Nat.pow_zero, Nat.add_sub_cancel]
  | succ k => rw [loUp, if_pos h]

theorem loUp_of_maximal {j k i : Nat} (hjk : j ≤ k) (h : 2 ^ j ∣ i + 1) (h' : ¬ 2 ^ (j + 1) ∣ i + 1) :
    loUp k i = i + 1 - 2 ^ j := by
  induction k with
  | zero =>
    obtain rfl : j = 0 := by omega
    exact loUp_of_dvd h
  | succ k ih =>
    rcases Nat.eq_or_lt_of_le hjk with rfl | hlt
    · exact loUp_of_dvd h
    · have hnot : ¬ 2 ^ (k + 1) ∣ i + 1 := fun hd => h' (Nat.dvd_trans (Nat.pow_dvd_pow 2 hlt) hd)
      rw [loUp, if_neg hnot]
      exact ih (Nat.le_of_lt_succ hlt)

/-- entries at positions `2^m - 1` are complete after the up-sweep -/
theorem loUp_two_pow {m k i : Nat} (hmk : m ≤ k) (hi : i + 1 = 2 ^ m) : loUp k i = 0 := by
  have hnd : ¬ 2 ^ (m + 1) ∣ i + 1 := fun h => by
    have := Nat.le_of_dvd (Nat.succ_pos i) h
    rw [Nat.pow_succ'] at this
    omega
  rw [loUp_of_maximal hmk (hi ▸ Nat.dvd_refl _) hnd, hi, Nat.sub_self]

theorem size_leaves (n : Nat) : ((Array.range n).map BTree.leaf).size = n := by
  rw [Array.size_map, Array.size_range]

theorem leaves_inv (n : Nat) : Inv ((Array.range n).map BTree.leaf) (loUp 0) := by
  intro i hi
  rw [getElem!_pos _ i hi, Array.getElem_map, Array.getElem_range]
  exact Spans.leaf i

/-- `range(s - 1, n, s)` are the positions `i` with `s ∣ i + 1` -/
theorem hit_up_iff {s i : Nat} (hs : 0 < s) : Hit (s - 1) s i ↔ s ∣ i + 1 := by
  by_cases hle : s - 1 ≤ i
  · have e : i + 1 = (i - (s - 1)) + s := by omega
    rw [e, Nat.dvd_add_left (Nat.dvd_refl s), Nat.dvd_iff_mod_eq_zero]
    exact and_iff_right hle
  · exact iff_of_false (fun h => hle h.1) (fun h => by have := Nat.le_of_dvd (Nat.succ_pos i) h; omega)

theorem upLevel_inv {k : Nat} {pv : Array BTree} (h : Inv pv (loUp k)) :
    (sweepLevel (2 ^ (k + 1) - 1) (2 ^ k) (2 ^ (k + 1)) pv).size = pv.size ∧
    Inv (sweepLevel (2 ^ (k + 1) - 1) (2 ^ k) (2 ^ (k + 1)) pv) (loUp (k + 1)) := by
  have hpos : 0 < 2 ^ k := Nat.two_pow_pos k
  have h2 : 2 ^ (k + 1) = 2 * 2 ^ k := Nat.pow_succ'
  obtain ⟨hsz, hget⟩ := sweepLevel_spec (pv := pv) hpos (by omega : 2 ^ k < 2 ^ (k + 1))
    (by omega : 2 ^ k ≤ 2 ^ (k + 1) - 1)
  refine ⟨hsz, fun i hi => ?_⟩
  rw [hsz] at hi
  rw [hget i hi, loUp]
  by_cases hd : 2 ^ (k + 1) ∣ i + 1
  · have hle := Nat.le_of_dvd (Nat.succ_pos i) hd
    have hdk : 2 ^ k ∣ i + 1 := Nat.dvd_trans (Nat.pow_dvd_pow 2 (Nat.le_succ k)) hd
    have e : i - 2 ^ k + 1 = i + 1 - 2 ^ k := by omega
    have hdk' : 2 ^ k ∣ (i - 2 ^ k) + 1 := e ▸ Nat.dvd_sub hdk (Nat.dvd_refl _)
    have hl := h (i - 2 ^ k) (by omega)
    have hr := h i hi
    have e' : i - 2 ^ k + 1 - 2 ^ k = i + 1 - 2 ^ (k + 1) := by omega
    rw [loUp_of_dvd hdk', e'] at hl
    rw [loUp_of_dvd hdk] at hr
    rw [if_pos ((hit_up_iff (by omega)).mpr hd), if_pos hd]
    exact Spans.absorb (by omega) hl hr
  · rw [if_neg (fun hH => hd ((hit_up_iff (by omega)).mp hH)), if_neg hd]
    exact h i hi

/-- The up-sweep runs through the strides `2^k, 2^(k+1), …` while `2 * stride ≤ n`; the fuel `n + 1` is never used up
    because `k < 2^k`. -/
theorem upsweep_inv (n : Nat) : ∀ (fuel k : Nat) (pv : Array BTree),
    pv.size = n → Inv pv (loUp k) → 2 ^ k ≤ n → n < fuel + k + 1 →
    ∃ K, (upsweep fuel (2 ^ k) (2 ^ (k + 1)) pv).1.size = n ∧
      Inv (upsweep fuel (2 ^ k) (2 ^ (k + 1)) pv).1 (loUp K) ∧ 2 ^ K ≤ n ∧ n < 2 ^ (K + 1) := by
  intro fuel
  induction fuel with
  | zero =>
    intro k pv hsz hI hk hfuel
    have hlt : k + 1 < 2 ^ (k + 1) := Nat.lt_two_pow_self
    exact ⟨k, hsz, hI, hk, by omega⟩
  | succ fuel ih =>
    intro k pv hsz hI hk hfuel
    rw [upsweep]
    by_cases hc : 2 ^ (k + 1) ≤ pv.size
    · rw [if_pos hc, ← Nat.pow_succ]
      obtain ⟨hsz', hI'⟩ := upLevel_inv hI
      exact ih (k + 1) _ (by rw [hsz', hsz]) hI' (by omega) (by omega)
    · rw [if_neg hc]
      exact ⟨k, hsz, hI, hk, by omega⟩

/-- the body of the loop in `nextPow2` -/
def npStep (m p : Nat) : Nat := if p < m then p * 2 else p

theorem nextPow2_eq_foldl (m : Nat) :
    nextPow2 m = (List.range' 0 m).foldl (fun p _ => npStep m p) 1 := by
  have hbody : (fun (_ p : Nat) =>
        if p < m then (pure (ForInStep.yield (p * 2)) : Id _) else pure (ForInStep.yield p))
      = fun _ p => pure (ForInStep.yield (npStep m p)) := by
    funext _ p
    exact (apply_ite (fun q => (pure (ForInStep.yield q) : Id _)) (p < m) (p * 2) p).symm
  have hsize : (m - 0 + 1 - 1) / 1 = m := by omega
  simp only [nextPow2, Std.Legacy.Range.forIn_eq_forIn_range', Std.Legacy.Range.size, hbody, hsize,
    List.forIn_pure_yield_eq_foldl]
  rfl

/-- after `t` iterations: `p = 2^a` is still below `m` (then `a = t`) or the first power of two `≥ m` -/
def NpInv (m t p : Nat) : Prop := ∃ a, p = 2 ^ a ∧ (p = 1 ∨ p < 2 * m) ∧ (m ≤ p ∨ a = t)

theorem NpInv.step {m t p : Nat} (h : NpInv m t p) : NpInv m (t + 1) (npStep m p) := by
  obtain ⟨a, hp, hlow, hup⟩ := h
  unfold npStep
  by_cases hlt : p < m
  · rw [if_pos hlt]
    exact ⟨a + 1, by rw [hp, Nat.pow_succ], Or.inr (by omega), Or.inr (by omega)⟩
  · rw [if_neg hlt]
    exact ⟨a, hp, hlow, Or.inl (by omega)⟩

theorem NpInv.foldl {m : Nat} (l : List Nat) : ∀ {t p : Nat}, NpInv m t p →
    NpInv m (t + l.length) (l.foldl (fun p _ => npStep m p) p) := by
  induction l with
  | nil => exact fun h => h
  | cons x l ih =>
    intro t p h
    rw [List.length_cons, ← Nat.add_assoc, Nat.add_right_comm]
    exact ih h.step

theorem nextPow2_spec (m : Nat) :
    ∃ a, nextPow2 m = 2 ^ a ∧ m ≤ 2 ^ a ∧ (2 ^ a = 1 ∨ 2 ^ a < 2 * m) := by
  obtain ⟨a, hp, hlow, hup⟩ := NpInv.foldl (List.range' 0 m) (⟨0, rfl, Or.inl rfl, Or.inr rfl⟩ : NpInv m 0 1)
  rw [← nextPow2_eq_foldl] at hp hlow hup
  rw [List.length_range', Nat.zero_add] at hup
  have hlt : a < 2 ^ a := Nat.lt_two_pow_self
  exact ⟨a, hp, by omega, hp ▸ hlow⟩

/-- left end of entry `i` once the down-sweep levels with strides `≥ 2^j` are done: the multiples of `2^j` are complete -/
def loDown (K j i : Nat) : Nat := if 2 ^ j ∣ i + 1 then 0 else loUp K i

/-- `range(2 s + s - 1, n, 2 s)`: the right neighbours, at distance `s`, of the positions `i` with `2 s ∣ i + 1` -/
theorem hit_down_iff {s i : Nat} (hs : 0 < s) :
    Hit (2 * s + s - 1) (2 * s) i ↔ s ≤ i ∧ 2 * s ∣ (i - s) + 1 := by
  have e : i - s - (2 * s - 1) = i - (2 * s + s - 1) := by omega
  rw [← hit_up_iff (by omega : 0 < 2 * s), Hit, Hit, e]
  omega

theorem odd_multiple_of_hit {s i : Nat} (hs : 0 < s) (hle : s ≤ i) (h : 2 * s ∣ (i - s) + 1) :
    s ∣ i + 1 ∧ ¬ 2 * s ∣ i + 1 := by
  have e : i + 1 = (i - s + 1) + s := by omega
  rw [e, Nat.dvd_add_right h, Nat.dvd_add_right (Nat.dvd_trans (Nat.dvd_mul_left s 2) h)]
  exact ⟨Nat.dvd_refl s, fun hd => by have := Nat.le_of_dvd hs hd; omega⟩

theorem hit_down_of_odd_multiple {s i : Nat} (hs : 0 < s) (hd : s ∣ i + 1) (hnd : ¬ 2 * s ∣ i + 1)
    (hne : i + 1 ≠ s) : Hit (2 * s + s - 1) (2 * s) i := by
  have hle := Nat.le_of_dvd (Nat.succ_pos i) hd
  have e : i - s + 1 = i + 1 - s := by omega
  rw [hit_down_iff hs, e]
  refine ⟨by omega, ?_⟩
  obtain ⟨c, hc⟩ := hd
  rw [hc] at hnd ⊢
  rcases Nat.mod_two_eq_zero_or_one c with h | h
  · obtain ⟨d, rfl⟩ : ∃ d, c = 2 * d := ⟨c / 2, by omega⟩
    exact absurd ⟨d, by rw [Nat.mul_left_comm, Nat.mul_assoc]⟩ hnd
  · obtain ⟨d, rfl⟩ : ∃ d, c = 2 * d + 1 := ⟨c / 2, by omega⟩
    exact ⟨d, by rw [Nat.mul_add, Nat.mul_one, Nat.add_sub_cancel, Nat.mul_left_comm, Nat.mul_assoc]⟩

theorem downLevel_inv {K j : Nat} {pv : Array BTree} (hj : j ≤ K) (h : Inv pv (loDown K (j + 1))) :
    (sweepLevel (2 ^ (j + 1) + 2 ^ j - 1) (2 ^ j) (2 ^ (j + 1)) pv).size = pv.size ∧
    Inv (sweepLevel (2 ^ (j + 1) + 2 ^ j - 1) (2 ^ j) (2 ^ (j + 1)) pv) (loDown K j) := by
  have hpos : 0 < 2 ^ j := Nat.two_pow_pos j
  have h2 : 2 ^ (j + 1) = 2 * 2 ^ j := Nat.pow_succ'
  obtain ⟨hsz, hget⟩ := sweepLevel_spec (pv := pv) hpos (by omega : 2 ^ j < 2 ^ (j + 1))
    (by omega : 2 ^ j ≤ 2 ^ (j + 1) + 2 ^ j - 1)
  refine ⟨hsz, fun i hi => ?_⟩
  rw [hsz] at hi
  have hr := h i hi
  rw [loDown, h2] at hr
  rw [hget i hi, loDown, h2]
  by_cases hH : Hit (2 * 2 ^ j + 2 ^ j - 1) (2 * 2 ^ j) i
  · obtain ⟨hle, hleft⟩ := (hit_down_iff hpos).mp hH
    obtain ⟨hd, hnd⟩ := odd_multiple_of_hit hpos hle hleft
    have hl := h (i - 2 ^ j) (by omega)
    rw [loDown, h2, if_pos hleft] at hl
    rw [if_neg hnd, loUp_of_maximal hj hd (h2 ▸ hnd)] at hr
    rw [if_pos hH, if_pos hd]
    exact Spans.absorb hle hl hr
  · -- the target value of `lo` is the old one: an odd multiple of `2^j` that is not written is `2^j` itself, complete
    -- since the up-sweep
    have hlo : (if 2 * 2 ^ j ∣ i + 1 then 0 else loUp K i) = if 2 ^ j ∣ i + 1 then 0 else loUp K i := by
      by_cases hd : 2 ^ j ∣ i + 1
      · by_cases hd' : 2 * 2 ^ j ∣ i + 1
        · rw [if_pos hd, if_pos hd']
        · have hi1 := Decidable.not_not.mp (fun hne => hH (hit_down_of_odd_multiple hpos hd hd' hne))
          rw [if_pos hd, if_neg hd', loUp_two_pow hj hi1]
      · rw [if_neg hd, if_neg (fun hd' => hd (Nat.dvd_trans (Nat.dvd_mul_left _ 2) hd'))]
    rw [if_neg hH, ← hlo]
    exact hr

theorem two_pow_succ_div_two (j : Nat) : 2 ^ (j + 1) / 2 = 2 ^ j := by
  rw [Nat.pow_succ, Nat.mul_div_cancel _ (by decide : 0 < 2)]

theorem downsweep_zero (fuel stride2 : Nat) (pv : Array BTree) : downsweep fuel 0 stride2 pv = pv := by
  cases fuel with
  | zero => rfl
  | succ fuel => rw [downsweep, if_neg (Nat.lt_irrefl 0)]

/-- The down-sweep runs through the strides `2^j, …, 2, 1`; fuel `> j` suffices. -/
theorem downsweep_inv (K : Nat) : ∀ (fuel j : Nat) (pv : Array BTree),
    j < fuel → j ≤ K → Inv pv (loDown K (j + 1)) →
    (downsweep fuel (2 ^ j) (2 ^ (j + 1)) pv).size = pv.size ∧
    Inv (downsweep fuel (2 ^ j) (2 ^ (j + 1)) pv) (loDown K 0) := by
  intro fuel
  induction fuel with
  | zero => intro j pv hf; omega
  | succ fuel ih =>
    intro j pv hf hj hI
    obtain ⟨hsz, hI'⟩ := downLevel_inv hj hI
    rw [downsweep, if_pos (Nat.two_pow_pos j)]
    cases j with
    | zero =>
      have e : 2 ^ 0 / 2 = 0 := by decide
      rw [e, downsweep_zero]
      exact ⟨hsz, hI'⟩
    | succ j =>
      rw [two_pow_succ_div_two]
      obtain ⟨hsz'', hI''⟩ := ih j _ (by omega) (by omega) hI'
      exact ⟨by rw [hsz'', hsz], hI''⟩

theorem loDown_zero (K i : Nat) : loDown K 0 i = 0 := by
  rw [loDown, if_pos (by rw [Nat.pow_zero]; exact Nat.one_dvd _)]

theorem le_of_two_pow_le {a n K : Nat} (ha : 2 ^ a ≤ n) (hK : n < 2 ^ (K + 1)) : a ≤ K :=
  Nat.le_of_lt_succ ((Nat.pow_lt_pow_iff_right (by decide : 1 < 2)).mp (Nat.lt_of_le_of_lt ha hK))

/-- the down-sweep starts with `stride2 = max 2 (nextPow2 (n / 2)) = 2^(J+1)`: at most the last stride of the up-sweep, and
    more than a third of `n` -/
theorem downStart {n K : Nat} (hn : 2 ≤ n) (hK : n < 2 ^ (K + 1)) :
    ∃ J, Nat.max 2 (nextPow2 (n / 2)) = 2 ^ (J + 1) ∧ J + 1 ≤ K ∧ n < 3 * 2 ^ (J + 1) := by
  obtain ⟨a, hP, hge, hlow⟩ := nextPow2_spec (n / 2)
  rw [hP]
  cases a with
  | zero =>
    rw [Nat.pow_zero] at hge
    exact ⟨0, rfl, le_of_two_pow_le (a := 1) hn hK, by omega⟩
  | succ a =>
    have h2 : 2 ^ (a + 1) = 2 * 2 ^ a := Nat.pow_succ'
    have hpos : 0 < 2 ^ a := Nat.two_pow_pos a
    exact ⟨a, Nat.max_eq_right (by omega), le_of_two_pow_le (by omega) hK, by omega⟩

/-- Before the down-sweep the multiples of its first `stride2 = 2^(J+1)` are already complete: below `n < 3 * 2^(J+1)`
    these are `2^(J+1)` and `2^(J+2)`, powers of two. -/
theorem loDown_start {n K J i : Nat} (hK : n < 2 ^ (K + 1)) (hJ : J + 1 ≤ K) (hn : n < 3 * 2 ^ (J + 1))
    (hi : i < n) : loDown K (J + 1) i = loUp K i := by
  rw [loDown]
  by_cases hd : 2 ^ (J + 1) ∣ i + 1
  · rw [if_pos hd]
    obtain ⟨c, hc⟩ := hd
    match c, hc with
    | 0, hc => omega
    | 1, hc => exact (loUp_two_pow hJ (by omega)).symm
    | 2, hc =>
      have hc' : i + 1 = 2 ^ (J + 2) := by rw [hc, ← Nat.pow_succ]
      exact (loUp_two_pow (le_of_two_pow_le (by omega) hK) hc').symm
    | c + 3, hc =>
      have := Nat.mul_le_mul_left (2 ^ (J + 1)) (Nat.le_add_left 3 c)
      omega
  · rw [if_neg hd]

theorem validTrees_iff (ts : List BTree) :
    validTrees ts = true ↔ ∀ i (h : i < ts.length), ts[i].leaves = List.range (i + 1) := by
  unfold validTrees
  rw [List.all_eq_true]
  constructor
  · intro hall i hi
    have := hall (ts[i], i) (List.mem_zipIdx_iff_getElem?.mpr (List.getElem?_eq_getElem hi))
    exact beq_iff_eq.mp this
  · intro hall ⟨t, i⟩ hmem
    obtain ⟨hi, ht⟩ := List.getElem?_eq_some_iff.mp (List.mem_zipIdx_iff_getElem?.mp hmem)
    have ht' : ts[i] = t := ht
    exact beq_iff_eq.mpr (ht' ▸ hall i hi)

theorem valid_of_inv {pv : Array BTree} {lo : Nat → Nat} (h : Inv pv lo) (h0 : ∀ i, i < pv.size → lo i = 0) :
    validTrees pv.toList = true := by
  rw [validTrees_iff]
  intro i hi
  rw [Array.length_toList] at hi
  have hs := (h i hi).2
  rw [getElem!_pos pv i hi, h0 i hi, Nat.sub_zero, ← List.range_eq_range'] at hs
  rw [Array.getElem_toList]
  exact hs

theorem blellochTrees_spec (n : Nat) : (blellochTrees n).length = n ∧ validTrees (blellochTrees n) = true := by
  by_cases hn : n < 2
  · simp only [blellochTrees, if_pos hn]
    refine ⟨by rw [Array.length_toList, size_leaves], valid_of_inv (leaves_inv n) (fun i hi => ?_)⟩
    rw [size_leaves] at hi
    show i = 0
    omega
  · simp only [blellochTrees, if_neg hn]
    obtain ⟨K, hsz, hI, hK, hK'⟩ :=
      upsweep_inv n (n + 1) 0 _ (size_leaves n) (leaves_inv n) (by rw [Nat.pow_zero]; omega) (by omega)
    obtain ⟨J, hs2, hJ, hn3⟩ := downStart (Nat.le_of_not_lt hn) hK'
    have hlt : K < 2 ^ K := Nat.lt_two_pow_self
    have hI0 : Inv (upsweep (n + 1) 1 2 ((Array.range n).map BTree.leaf)).1 (loDown K (J + 1)) := by
      intro i hi
      rw [loDown_start hK' hJ hn3 (hsz ▸ hi)]
      exact hI i hi
    rw [hs2, two_pow_succ_div_two]
    obtain ⟨hsz', hfin⟩ := downsweep_inv K (n + 1) J _ (by omega) (by omega) hI0
    exact ⟨by rw [Array.length_toList, hsz', hsz], valid_of_inv hfin (fun i _ => loDown_zero K i)⟩

theorem blellochTrees_length (n : Nat) : (blellochTrees n).length = n := (blellochTrees_spec n).1

/-- dask's Blelloch scan is a prefix scan: for every number of carried states, entry `i` of `prefix_vals` combines the
    blocks `0, …, i`, in this order -/
theorem blellochTrees_valid (n : Nat) : validTrees (blellochTrees n) = true := (blellochTrees_spec n).2

end Scan
end Flox
