/-
  Arg-reductions end to end (property C06): the tie of `mapreduce_arg_eq_spec` to the generated table, the
  specification in plain words (`arg_first_occurrence`), and the concrete inputs on which the theorems apply or their
  hypotheses are shown necessary.
-/
import FloxProofs.ArgFinish
import FloxProofs.TableShape
import FloxProofs.InitRowsChunks
import FloxProofs.EndToEndExamples

namespace Flox.Grp

def argFuncs : List String := ["argmax", "argmin", "nanargmax", "nanargmin"]

/-- what is checked, by evaluation, on every arg row of the generated table: the blueprint fits; a row generated for
    `min_count > 0` takes `min_count` from the call (`"mc"`), every other row carries the literal 0.  Either way the
    resolved `min_count` is the call's (`ArgRowFacts.minCount`). -/
def argRowOK (r : InitRow) : Bool :=
  match r.base, kernelWithDdof 0 r.func with
  | some R0, some k =>
    decide (ArgFits k (r.rep R0)) && (!r.mcPos || r.minCount == "mc")
      && (r.mcPos || decide (R0.minCount = 0 ∧ r.minCount ≠ "mc"))
  | _, _ => false

def argRowSelected (r : InitRow) : Bool :=
  r.ok && (r.dkind == "f8" || r.dkind == "f4") && argFuncs.contains r.func

/-- `argRowSelected` and `argRowOK` with the fields they read passed on as literals: the kernel caches the evaluation
    of closed terms, so the sweep evaluates each distinct combination of those fields once, not each of the 2480 rows -/
def argRowSel : InitRow → Bool
  | { func, dkind, ok, .. } => argRowSelected { func, dkind, fillKind := "", mcPos := false, ok }

def argRowChk : InitRow → Bool
  | { func, mcPos, ok, numpy, chunk, combine, interFills, numpyFills, finalFill, userFill, minCount, finalize, isArg,
      .. } =>
    argRowOK { func, dkind := "", fillKind := "", mcPos, ok, numpy, chunk, combine, interFills, numpyFills, finalFill,
               userFill, minCount, finalize, isArg }

theorem argRowSel_eq : argRowSel = argRowSelected := funext fun r => by cases r; rfl

theorem argRowChk_eq : argRowChk = argRowOK := funext fun r => by cases r; rfl

/-- one evaluation of the table for both facts: there are 80 arg rows, and each passes `argRowOK` -/
theorem generated_arg_rows_check :
    ((initChunks.flatten.filter argRowSelected).length == 80
      && (initChunks.flatten.filter argRowSelected).all argRowOK) = true := by
  rw [← argRowSel_eq, ← argRowChk_eq]
  decide +kernel

theorem setDdof_of_isArg {k : Kernel} (hk : isArgKernel k = true) (d : Nat) :
    Kernel.setDdof d k = k ∧ Kernel.setDdof d (argChunkVal k) = argChunkVal k := by
  rcases isArgKernel_cases hk with (rfl | rfl) | (rfl | rfl) <;> exact ⟨rfl, rfl⟩

theorem ArgFits.transfer {k : Kernel} {R0 R : Resolved} (d : Nat) (hf : ArgFits k R0)
    (hmc : R.minCount > 0 ↔ R0.minCount > 0)
    (hchunk : R.chunk = R0.chunk.map (Kernel.setDdof d))
    (hcombine : R.combine = R0.combine.map (Kernel.setDdof d)) (hif : R.interFills = R0.interFills)
    (hfin : R.finalize = R0.finalize) (harg : R.isArg = R0.isArg) : ArgFits k R := by
  obtain ⟨h1, h2⟩ := setDdof_of_isArg hf.hk d
  refine ⟨hf.hk, harg.trans hf.isArg, ?_, ?_, ?_, hfin.trans hf.fin⟩
  · rw [hchunk, hf.chunk, cntSuffix_congr hmc, List.map_append, cntSuffix_map]
    simp only [List.map_cons, List.map_nil, h1, h2]
    rfl
  · rw [hcombine, hf.combine, cntSuffix_congr hmc, List.map_append, cntSuffix_map]
    simp only [List.map_cons, List.map_nil, h1, h2]
    rfl
  · rw [hif, hf.interFills, cntSuffix_congr hmc]

/-- what the end-to-end theorem needs to know about an arg row of the generated table -/
structure ArgRowFacts (row : InitRow) (user : Option Val) (mc ddof : Nat) (R : Resolved) (k : Kernel) : Prop where
  resolve : row.resolve user mc ddof = some R
  kernel : kernelWithDdof ddof row.func = some k
  fits : ArgFits k R
  minCount : R.minCount = mc
  userFill : row.userFill = "user" → R.userFill = user

theorem argRowOK_facts (pf : ParseFacts) (row : InitRow) (hok : argRowOK row = true) (user : Option Val)
    (mc ddof : Nat) (hmc : row.mcPos = decide (mc > 0)) : ∃ R k, ArgRowFacts row user mc ddof R k := by
  unfold argRowOK at hok
  split at hok
  · rename_i R0 k hbase hkern
    simp only [Bool.and_eq_true, decide_eq_true_eq, Bool.or_eq_true, Bool.not_eq_true', beq_iff_eq] at hok
    obtain ⟨⟨hfit, hmcs⟩, hlit⟩ := hok
    have hk' : isArgKernel k = true := hfit.hk
    refine ⟨row.inst R0 user mc ddof, k, row.resolve_of_base pf R0 hbase user mc ddof, ?_,
      hfit.transfer ddof (row.inst_minCount_pos R0 user ddof hmc) rfl rfl rfl rfl rfl, ?_, ?_⟩
    · rw [kernelWithDdof_setDdof ddof row.func k hkern, (setDdof_of_isArg hk' ddof).1]
    · simp only [InitRow.inst]
      by_cases h0 : mc > 0
      · have hp : row.mcPos = true := by rw [hmc]; simpa using h0
        have hm : row.minCount = "mc" := by
          rcases hmcs with h | h
          · rw [hp] at h; cases h
          · exact h
        simp [hm]
      · have hp : row.mcPos = false := by rw [hmc]; simp [h0]
        rcases hlit with h | ⟨h1, h2⟩
        · rw [hp] at h; cases h
        · simp only [h2, if_false, h1]; omega
    · intro hu
      simp [InitRow.inst, hu]
  · cases hok

/-- Tie to the generated table.  Every `ok` row of `argmax` / `argmin` / `nanargmax` / `nanargmin` on floating
    data resolves, for every user fill / `min_count` (of the positivity the row was generated for) / `ddof`, to a
    blueprint of the form `ArgFits` (flox since commit 41daa06: chunk = combine = [value kernel, arg kernel] (+ count),
    fills [∓inf | nan, 0] (+ 0), finalize "second", isArg). -/
theorem generated_arg_rows_fit :
    ∀ row ∈ Generated.initRows, row.ok = true → row.dkind ∈ ["f8", "f4"] → row.func ∈ argFuncs →
      ∀ (user : Option Val) (mc ddof : Nat), row.mcPos = decide (mc > 0) →
        ∃ R k, ArgRowFacts row user mc ddof R k := by
  intro row hrow hok hdk hfunc user mc ddof hmc
  have hsel : argRowSelected row = true := by
    simp only [argRowSelected, Bool.and_eq_true, Bool.or_eq_true, beq_iff_eq, List.contains_iff_mem]
    refine ⟨⟨hok, ?_⟩, hfunc⟩
    simpa using hdk
  rw [initRows_eq] at hrow
  exact argRowOK_facts parseFacts row
    (List.all_eq_true.mp (Bool.and_eq_true_iff.mp generated_arg_rows_check).2 row (List.mem_filter.mpr ⟨hrow, hsel⟩))
    user mc ddof hmc

/-- C06 on the live table.  For every `ok` float row of an arg-reduction, map-reduce (arg-reductions always use
    `_grouped_combine`) with the blueprint resolved from that row equals the specification with the NumPy kernel
    named by `func`, for every chunking and every `split_every`. -/
theorem generated_arg_mapreduce (row : InitRow) (hrow : row ∈ Generated.initRows) (hok : row.ok = true)
    (hdk : row.dkind ∈ ["f8", "f4"]) (hfunc : row.func ∈ argFuncs)
    (user : Option Val) (mc ddof : Nat) (hmc : row.mcPos = decide (mc > 0))
    (R : Resolved) (hres : row.resolve user mc ddof = some R)
    (k : Kernel) (hk : kernelWithDdof ddof row.func = some k)
    (c : Call) (n : Nat) (floatData : Bool) (chunks : List Nat) (codes : List Int) (vals : List Val)
    (hR : c.R = R) (heng : c.eng = .npg) (hn : c.ngroups = n)
    (hcodes : CodesOK codes n) (hlen : codes.length = vals.length) (hne : codes ≠ [])
    (hchunks : chunks ≠ []) (hsum : chunks.sum = codes.length)
    (H_notallnan : ∀ g : Nat, g < n → HNotAllNaN k R (members (Int.ofNat g) codes vals))
    (H_dropped : HDropped R codes vals) :
    runKnown c (.mapreduce false) floatData chunks (codeKeys codes) vals = specResult k R codes vals n := by
  obtain ⟨R', k', hfacts⟩ := generated_arg_rows_fit row hrow hok hdk hfunc user mc ddof hmc
  have : R' = R := Option.some.inj (hfacts.resolve.symm.trans hres)
  subst this
  have hk' : k' = k := Option.some.inj (hfacts.kernel.symm.trans hk)
  subst hk'
  exact mapreduce_arg_eq_spec k' R' c n floatData chunks codes vals hR heng hn hfacts.fits hcodes hlen hne hchunks hsum
    H_notallnan H_dropped

theorem mem_positions_iff (g : Int) (codes : List Int) (q : Nat) :
    q ∈ Spec.positions g codes ↔ codes[q]? = some g := by
  rw [show Spec.positions g codes = posWhere (· = g) codes 0 from rfl, mem_posWhere]
  constructor
  · rintro ⟨m, a, rfl, hm, rfl⟩
    rw [Nat.zero_add, hm]
  · intro h
    exact ⟨q, g, by omega, h, rfl⟩

theorem positions_sorted (g : Int) (codes : List Int) : (Spec.positions g codes).Pairwise (· < ·) :=
  pairwise_posWhere (· = g) codes 0

theorem members_eq_map_positions (g : Int) (codes : List Int) (vals : List Val) (h : codes.length ≤ vals.length) :
    members g codes vals = (Spec.positions g codes).map fun i => vals.getD i Val.nan := by
  rw [← membersK_codeKeys, membersK_eq_map_pos _ _ _ Val.nan (by rw [codeKeys_length]; exact h), memberPosK_codeKeys]

/-- `argBest_spec` along a strictly increasing list of positions `pos`, the values being those at the positions -/
theorem argBest_spec_at (k : Kernel) (pos : List Nat) (hs : pos.Pairwise (· < ·)) (vals : List Val) (hne : pos ≠ []) :
    ∃ p ∈ pos, pos.getD (argBest (argBetter k) (pos.map fun i => vals.getD i Val.nan)) 0 = p
      ∧ (∀ q ∈ pos, argBetter k (vals.getD q Val.nan) (vals.getD p Val.nan) = false)
      ∧ (∀ q ∈ pos, q < p → argBetter k (vals.getD p Val.nan) (vals.getD q Val.nan) = true) := by
  obtain ⟨hlt, hbest, hfirst⟩ := argBest_spec k (pos.map fun i => vals.getD i Val.nan) (by simpa using hne)
  generalize argBest (argBetter k) (pos.map fun i => vals.getD i Val.nan) = i at hlt hbest hfirst
  rw [List.length_map] at hlt
  have hget : ∀ j (hj : j < pos.length),
      (pos.map fun i => vals.getD i Val.nan).getD j Val.nan = vals.getD pos[j] Val.nan :=
    fun j hj => getD_map_lt _ _ _ _ hj
  rw [hget i hlt] at hbest hfirst
  refine ⟨pos[i], List.getElem_mem _, by simp [List.getD_eq_getElem?_getD, hlt], ?_, ?_⟩
  · intro q hq
    exact hbest _ (List.mem_map.mpr ⟨q, hq, rfl⟩)
  · intro q hq hqp
    obtain ⟨j, hj, rfl⟩ := List.getElem_of_mem hq
    -- the list is increasing, so an earlier position has an earlier place in it
    have hji : j < i := Nat.lt_of_not_le fun hij => by
      rcases Nat.lt_or_eq_of_le hij with h | h
      · have := (List.pairwise_iff_getElem.mp hs) i j hlt hj h
        omega
      · subst h; omega
    have := hfirst j hji
    rwa [hget j hj] at this

theorem specArgSlot_first_occurrence (k : Kernel) (hk : isArgKernel k = true) (R : Resolved) (codes : List Int)
    (vals : List Val) (g : Int) (hlen : codes.length = vals.length) (hm : members g codes vals ≠ [])
    (hun : ¬ Spec.validCount (members g codes vals) < R.minCount) :
    ∃ p : Nat, specArgSlot R k (Spec.positions g codes) (members g codes vals) = .ok (Val.ofNat p)
      ∧ codes[p]? = some g
      ∧ (∀ q, codes[q]? = some g → argBetter k (vals.getD q Val.nan) (vals.getD p Val.nan) = false)
      ∧ (∀ q, q < p → codes[q]? = some g → argBetter k (vals.getD p Val.nan) (vals.getD q Val.nan) = true) := by
  have hms := members_eq_map_positions g codes vals (by omega)
  obtain ⟨p, hp, hsel, hbest, hfirst⟩ := argBest_spec_at k (Spec.positions g codes) (positions_sorted g codes) vals
    (fun e => hm (by rw [hms, e]; rfl))
  refine ⟨p, ?_, (mem_positions_iff g codes p).mp hp, fun q hq => hbest q ((mem_positions_iff g codes q).mpr hq),
    fun q hqp hq => hfirst q ((mem_positions_iff g codes q).mpr hq) hqp⟩
  rw [specArgSlot_unmasked R k hk _ _ hm hun, hms, hsel]

/-- C06 in plain words.  Under the hypotheses of `mapreduce_arg_eq_spec`, when the map-reduce run succeeds with
    result `res`, the slot of every requested label `g` that occurs (and is not masked by `min_count`) holds an index
    `p` of the whole array with: the element at `p` carries label `g`, no element of the label beats it, and every
    earlier element of the label is strictly worse – for every chunking and every `split_every`. -/
theorem arg_first_occurrence (k : Kernel) (R : Resolved) (c : Call) (n : Nat) (floatData : Bool)
    (chunks : List Nat) (codes : List Int) (vals : List Val)
    (hR : c.R = R) (heng : c.eng = .npg) (hn : c.ngroups = n) (hf : ArgFits k R) (hcodes : CodesOK codes n)
    (hlen : codes.length = vals.length) (hne : codes ≠ [])
    (hchunks : chunks ≠ []) (hsum : chunks.sum = codes.length)
    (H_notallnan : ∀ g : Nat, g < n → HNotAllNaN k R (members (Int.ofNat g) codes vals))
    (H_dropped : HDropped R codes vals)
    (res : List Val) (hres : runKnown c (.mapreduce false) floatData chunks (codeKeys codes) vals = .ok res)
    (g : Nat) (hg : g < n) (hm : members (Int.ofNat g) codes vals ≠ [])
    (hun : ¬ Spec.validCount (members (Int.ofNat g) codes vals) < R.minCount) :
    ∃ p : Nat, res[g]? = some (Val.ofNat p)
      ∧ codes[p]? = some (Int.ofNat g)
      ∧ (∀ q, codes[q]? = some (Int.ofNat g) → argBetter k (vals.getD q Val.nan) (vals.getD p Val.nan) = false)
      ∧ (∀ q, q < p → codes[q]? = some (Int.ofNat g) →
          argBetter k (vals.getD p Val.nan) (vals.getD q Val.nan) = true) := by
  rw [mapreduce_arg_eq_spec k R c n floatData chunks codes vals hR heng hn hf hcodes hlen hne hchunks hsum
    H_notallnan H_dropped, specResult_arg_slots k hf.hk] at hres
  obtain ⟨p, hp, h1, h2, h3⟩ := specArgSlot_first_occurrence k hf.hk R codes vals (Int.ofNat g) hlen hm hun
  have hgl : g < (List.range n).length := by simpa using hg
  have := mapM_except_getElem _ (List.range n) res hres g hgl
  simp only [List.getElem_range] at this
  rw [hp] at this
  have hlen' : res.length = (List.range n).length := mapM_except_length _ _ _ hres
  refine ⟨p, ?_, h1, h2, h3⟩
  rw [List.getElem?_eq_getElem (by omega)]
  exact congrArg some (Except.ok.inj this).symm

namespace AE2E
open E2E

/-- the blueprints as `_initialize_aggregation` resolves them since flox commit 41daa06 (float data, `fill_value=-1`) -/
def Rargmax : Resolved :=
  { name := "argmax", numpy := [.argmax], chunk := [.max, .argmax], combine := [.max, .argmax],
    interFills := [Val.ninf, Val.zero], numpyFills := [Val.zero], finalFill := some (Val.fin (-1)),
    userFill := some (Val.fin (-1)), minCount := 0, finalize := "second", ddof := 0, isArg := true }

def Rargmin : Resolved :=
  { name := "argmin", numpy := [.argmin], chunk := [.min, .argmin], combine := [.min, .argmin],
    interFills := [Val.pinf, Val.zero], numpyFills := [Val.zero], finalFill := some (Val.fin (-1)),
    userFill := some (Val.fin (-1)), minCount := 0, finalize := "second", ddof := 0, isArg := true }

def Rnanargmax : Resolved :=
  { name := "nanargmax", numpy := [.nanargmax], chunk := [.nanmax, .nanargmax], combine := [.nanmax, .nanargmax],
    interFills := [Val.nan, Val.zero], numpyFills := [Val.zero], finalFill := some (Val.fin (-1)),
    userFill := some (Val.fin (-1)), minCount := 0, finalize := "second", ddof := 0, isArg := true }

def Rnanargmin : Resolved :=
  { name := "nanargmin", numpy := [.nanargmin], chunk := [.nanmin, .nanargmin], combine := [.nanmin, .nanargmin],
    interFills := [Val.nan, Val.zero], numpyFills := [Val.zero], finalFill := some (Val.fin (-1)),
    userFill := some (Val.fin (-1)), minCount := 0, finalize := "second", ddof := 0, isArg := true }

/-- `nanargmax` with `min_count=1` (count column appended) -/
def Rnanargmax1 : Resolved :=
  { name := "nanargmax", numpy := [.nanargmax, .nanlen], chunk := [.nanmax, .nanargmax, .nanlen],
    combine := [.nanmax, .nanargmax, .sum], interFills := [Val.nan, Val.zero, Val.zero],
    numpyFills := [Val.zero, Val.zero], finalFill := some (Val.fin (-1)), userFill := some (Val.fin (-1)),
    minCount := 1, finalize := "second", ddof := 0, isArg := true }

def Rnanargmax1n : Resolved := { Rnanargmax1 with userFill := none }

example : ArgFits .argmax Rargmax := by decide +kernel
example : ArgFits .argmin Rargmin := by decide +kernel
example : ArgFits .nanargmax Rnanargmax := by decide +kernel
example : ArgFits .nanargmin Rnanargmin := by decide +kernel
example : ArgFits .nanargmax Rnanargmax1 := by decide +kernel

/-- the generated table has the arg rows the tie theorem talks about (the tie is not vacuous) -/
example : (Generated.initRows.filter argRowSelected).length = 80 := by
  rw [initRows_eq]
  exact eq_of_beq (Bool.and_eq_true_iff.mp generated_arg_rows_check).1

/-! ties across blocks: the same extreme in two blocks → the smallest global index -/

def cT : List Int := [0, 1, 0, 1, 0, 1]
def vT : List Val := [.fin 5, .fin 3, .fin 5, .fin 3, .fin 1, .fin 3]

example : runKnown (mkCall Rargmax .npg 2 2) (.mapreduce false) true [2, 2, 2] (codeKeys cT) vT
    = specResult .argmax Rargmax cT vT 2 :=
  mapreduce_arg_eq_spec .argmax Rargmax (mkCall Rargmax .npg 2 2) 2 true [2, 2, 2] cT vT rfl rfl rfl
    (by decide +kernel) (by decide +kernel) rfl (by decide) (by decide) (by decide) (by decide +kernel)
    (by decide +kernel)

/-- the common value is the first occurrence: label 0 has its maximum 5 in blocks 0 and 1 → index 0;
    label 1 has 3 in every block → index 1 -/
example : specResult .argmax Rargmax cT vT 2 = .ok [Val.fin 0, Val.fin 1] := by decide +kernel

example : runKnown (mkCall Rargmin .npg 2 2) (.mapreduce false) true [2, 2, 2] (codeKeys cT) vT
    = specResult .argmin Rargmin cT vT 2 :=
  mapreduce_arg_eq_spec .argmin Rargmin (mkCall Rargmin .npg 2 2) 2 true [2, 2, 2] cT vT rfl rfl rfl
    (by decide +kernel) (by decide +kernel) rfl (by decide) (by decide) (by decide) (by decide +kernel)
    (by decide +kernel)

example : specResult .argmin Rargmin cT vT 2 = .ok [Val.fin 4, Val.fin 1] := by decide +kernel

/-! `argmax` with NaNs: no NaN-freeness hypothesis – the first NaN of the label wins, as in NumPy -/

def vTn : List Val := [.fin 5, .fin 3, .nan, .fin 3, .nan, .fin 3]

example : runKnown (mkCall Rargmax .npg 2 2) (.mapreduce false) true [2, 2, 2] (codeKeys cT) vTn
    = specResult .argmax Rargmax cT vTn 2 :=
  mapreduce_arg_eq_spec .argmax Rargmax (mkCall Rargmax .npg 2 2) 2 true [2, 2, 2] cT vTn rfl rfl rfl
    (by decide +kernel) (by decide +kernel) rfl (by decide) (by decide) (by decide) (by decide +kernel)
    (by decide +kernel)

example : specResult .argmax Rargmax cT vTn 2 = .ok [Val.fin 2, Val.fin 1] := by decide +kernel

/-! NaNs on both sides of a block boundary, blocks in which a label is all-NaN (`nanargmax`) -/

def cN : List Int := [0, 0, 0, 0, 1, 0, 0, 1]
def vN : List Val := [.fin 1, .nan, .nan, .fin 7, .nan, .nan, .fin 7, .fin 2]

/-- blocks `[1, nan | nan, 7 | nan₁, nan | 7, 2₁]`: label 0 is all-NaN in block 2, label 1 is all-NaN in block 2 -/
example : runKnown (mkCall Rnanargmax .npg 2 2) (.mapreduce false) true [2, 2, 2, 2] (codeKeys cN) vN
    = specResult .nanargmax Rnanargmax cN vN 2 :=
  mapreduce_arg_eq_spec .nanargmax Rnanargmax (mkCall Rnanargmax .npg 2 2) 2 true [2, 2, 2, 2] cN vN rfl rfl rfl
    (by decide +kernel) (by decide +kernel) rfl (by decide) (by decide) (by decide) (by decide +kernel)
    (by decide +kernel)

example : specResult .nanargmax Rnanargmax cN vN 2 = .ok [Val.fin 3, Val.fin 7] := by decide +kernel

example : runKnown (mkCall Rnanargmax .npg 2 3) (.mapreduce false) true [3, 1, 3, 1] (codeKeys cN) vN
    = specResult .nanargmax Rnanargmax cN vN 2 :=
  mapreduce_arg_eq_spec .nanargmax Rnanargmax (mkCall Rnanargmax .npg 2 3) 2 true [3, 1, 3, 1] cN vN rfl rfl rfl
    (by decide +kernel) (by decide +kernel) rfl (by decide) (by decide) (by decide) (by decide +kernel)
    (by decide +kernel)

/-- the input of the junk-pair defect repaired in flox commit 41daa06: data `[nan, nan | nan, -inf]`, one label.  With
    the blueprint before that commit (`combine = [max, argmax]`, fill `-inf`) flox answered 0
    (`nanargmax_grouped_counterexample`); with the present blueprint the theorem applies (no `HArgFill`) and the answer
    is 3, NumPy's. -/
example : runKnown (mkCall Rnanargmax .npg 1 2) (.mapreduce false) true [2, 2] (codeKeys [0, 0, 0, 0])
      [.nan, .nan, .nan, .ninf]
    = specResult .nanargmax Rnanargmax [0, 0, 0, 0] [.nan, .nan, .nan, .ninf] 1 :=
  mapreduce_arg_eq_spec .nanargmax Rnanargmax (mkCall Rnanargmax .npg 1 2) 1 true [2, 2] [0, 0, 0, 0]
    [.nan, .nan, .nan, .ninf] rfl rfl rfl (by decide +kernel) (by decide +kernel) rfl (by decide) (by decide)
    (by decide) (by decide +kernel) (by decide +kernel)

example : specResult .nanargmax Rnanargmax [0, 0, 0, 0] [.nan, .nan, .nan, .ninf] 1 = .ok [Val.fin 3] := by
  decide +kernel

example : runKnown (mkCall Rnanargmin .npg 1 2) (.mapreduce false) true [2, 2] (codeKeys [0, 0, 0, 0])
      [.nan, .nan, .nan, .pinf] = .ok [Val.fin 3] := by decide +kernel

/-! all chunks of size 1, dropped elements (code -1), an absent label -/

def c9 : List Int := [0, 1, 0, 1, 0, -1, 1, 0, 2]
def v9n : List Val := [.nan, .fin 5, .fin 3, .nan, .fin 3, .fin 9, .fin 7, .nan, .fin 4]

example : runKnown (mkCall Rnanargmax .npg 4 2) (.mapreduce false) true [1, 1, 1, 1, 1, 1, 1, 1, 1] (codeKeys c9) v9n
    = specResult .nanargmax Rnanargmax c9 v9n 4 :=
  mapreduce_arg_eq_spec .nanargmax Rnanargmax (mkCall Rnanargmax .npg 4 2) 4 true [1, 1, 1, 1, 1, 1, 1, 1, 1] c9 v9n
    rfl rfl rfl (by decide +kernel) (by decide +kernel) rfl (by decide) (by decide) (by decide) (by decide +kernel)
    (by decide +kernel)

/-- label 3 never occurs → the user's fill -/
example : specResult .nanargmax Rnanargmax c9 v9n 4 = .ok [Val.fin 2, Val.fin 6, Val.fin 8, Val.fin (-1)] := by
  decide +kernel

/-- the plain-words statement on the same input: the slot of label 1 is an index carrying label 1 -/
example : ∃ p : Nat, (([Val.fin 2, Val.fin 6, Val.fin 8, Val.fin (-1)] : List Val)[1]? = some (Val.ofNat p))
    ∧ c9[p]? = some (Int.ofNat 1) :=
  let ⟨p, h1, h2, _, _⟩ := arg_first_occurrence .nanargmax Rnanargmax (mkCall Rnanargmax .npg 4 2) 4 true
    [1, 1, 1, 1, 1, 1, 1, 1, 1] c9 v9n rfl rfl rfl (by decide +kernel) (by decide +kernel) rfl (by decide)
    (by decide) (by decide) (by decide +kernel) (by decide +kernel)
    [Val.fin 2, Val.fin 6, Val.fin 8, Val.fin (-1)] (by decide +kernel) 1 (by decide) (by decide +kernel)
    (by decide +kernel)
  ⟨p, h1, h2⟩

/-! the count mask (`min_count = 1`): an all-NaN label is masked, `H_notallnan` holds through its first disjunct -/

example : runKnown (mkCall Rnanargmax1 .npg 2 2) (.mapreduce false) true [2, 2] (codeKeys [1, 0, 0, 1])
      [.fin 3, .nan, .nan, .fin 4]
    = specResult .nanargmax Rnanargmax1 [1, 0, 0, 1] [.fin 3, .nan, .nan, .fin 4] 2 :=
  mapreduce_arg_eq_spec .nanargmax Rnanargmax1 (mkCall Rnanargmax1 .npg 2 2) 2 true [2, 2] [1, 0, 0, 1]
    [.fin 3, .nan, .nan, .fin 4] rfl rfl rfl (by decide +kernel) (by decide +kernel) rfl (by decide) (by decide)
    (by decide) (by decide +kernel) (by decide +kernel)

example : specResult .nanargmax Rnanargmax1 [1, 0, 0, 1] [.fin 3, .nan, .nan, .fin 4] 2
    = .ok [Val.fin (-1), Val.fin 3] := by decide +kernel

/-- `H_notallnan` is necessary (`nanarg*`, `min_count = 0`): label 0 is all-NaN (NumPy raises "All-NaN slice
    encountered"; the specification's convention is the label's first position, 1); the model stores the junk index
    – the first global index of the first block – which is 0, an element of label 1.  Every other hypothesis holds. -/
theorem nanargmax_allnan_counterexample :
    ArgFits .nanargmax Rnanargmax ∧ CodesOK [1, 0, 0, 1] 2 ∧ HDropped Rnanargmax [1, 0, 0, 1] [.fin 3, .nan, .nan, .fin 4]
    ∧ ¬ HNotAllNaN .nanargmax Rnanargmax (members 0 [1, 0, 0, 1] [.fin 3, .nan, .nan, .fin 4])
    ∧ runKnown (mkCall Rnanargmax .npg 2 2) (.mapreduce false) true [2, 2] (codeKeys [1, 0, 0, 1])
        [.fin 3, .nan, .nan, .fin 4] = .ok [Val.fin 0, Val.fin 3]
    ∧ specResult .nanargmax Rnanargmax [1, 0, 0, 1] [.fin 3, .nan, .nan, .fin 4] 2 = .ok [Val.fin 1, Val.fin 3] := by
  decide +kernel

/-- `H_dropped` is necessary (as for every grouped combine): `min_count = 1`, no fill value, the dropped elements
    (code -1) are all NaN: `_finalize_results` masks the group of dropped elements before the reindex and raises,
    although no requested label needs filling.  Every other hypothesis holds. -/
theorem arg_dropped_counterexample :
    ArgFits .nanargmax Rnanargmax1n ∧ CodesOK [0, -1, 0, -1] 1
    ∧ (∀ g : Nat, g < 1 → HNotAllNaN .nanargmax Rnanargmax1n (members (Int.ofNat g) [0, -1, 0, -1]
        [.fin 3, .nan, .fin 5, .nan]))
    ∧ ¬ HDropped Rnanargmax1n [0, -1, 0, -1] [.fin 3, .nan, .fin 5, .nan]
    ∧ runKnown (mkCall Rnanargmax1n .npg 1 2) (.mapreduce false) true [2, 2] (codeKeys [0, -1, 0, -1])
        [.fin 3, .nan, .fin 5, .nan] = .error "ValueError"
    ∧ specResult .nanargmax Rnanargmax1n [0, -1, 0, -1] [.fin 3, .nan, .fin 5, .nan] 1 = .ok [Val.fin 2] := by
  decide +kernel

end AE2E

end Flox.Grp
