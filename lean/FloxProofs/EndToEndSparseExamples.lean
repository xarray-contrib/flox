/-
  Non-vacuity examples and necessity counterexamples for the `reindex=False` map-reduce theorems
  (`FloxProofs/EndToEndSparse.lean`).
-/
import FloxProofs.EndToEndSparse
import FloxProofs.EndToEndExamples

namespace Flox
namespace E2E

/-- a fill is given, so `H_dropped` holds whatever the dropped elements are -/
theorem Rnanmean_dropped {n : Nat} {codes : List Int} {vals : List Val} : HDropped Rnanmean n codes vals :=
  fun _ h => nomatch h

/-- `mapreduce_sparse_eq_spec` applies to `nanmean` (`min_count=1`, fill -1), 4 blocks, binary tree; the data contain a
    dropped element (code -1), an absent requested label (1) and an all-NaN label (3) -/
theorem nanmean_sparse :
    runKnown (mkCall Rnanmean .npg 4 2) (.mapreduce false) true [2, 1, 3, 2] (codeKeys codes8) vals8
      = specResult .nanmean Rnanmean codes8 vals8 4 :=
  mapreduce_sparse_eq_spec Rnanmean (.mean true) (mkCall Rnanmean .npg 4 2) 4 true [2, 1, 3, 2] codes8 vals8
    rfl rfl rfl rfl Rnanmean_shape codes8_ok rfl Rnanmean_dropped Rnanmean_minmax rfl
    (useGroupedCombine_float _ rfl rfl)

example : runKnown (mkCall Rnanmean .npg 4 2) (.mapreduce false) true [2, 1, 3, 2] (codeKeys codes8) vals8
    = specResult .nanmean Rnanmean codes8 vals8 4 := nanmean_sparse

example : runKnown (mkCall Rnanmean .npg 4 2) (.mapreduce false) true [2, 1, 3, 2] (codeKeys codes8) vals8
    = .ok [Val.fin (3/2), Val.fin (-1), Val.fin 4, Val.fin (-1)] := nanmean_sparse.trans nanmean_spec

/-- the same with first-appearance order inside the blocks (`sort = false`), an empty block and a flat tree -/
theorem nanmean_sparse_unsorted : runKnown { mkCall Rnanmean .npg 4 8 with sort := false } (.mapreduce false) true
      [3, 0, 5] (codeKeys codes8) vals8 = specResult .nanmean Rnanmean codes8 vals8 4 :=
  mapreduce_sparse_eq_spec Rnanmean (.mean true) { mkCall Rnanmean .npg 4 8 with sort := false } 4 true [3, 0, 5]
    codes8 vals8 rfl rfl rfl rfl Rnanmean_shape codes8_ok rfl Rnanmean_dropped Rnanmean_minmax rfl
    (useGroupedCombine_float _ rfl rfl)

example : runKnown { mkCall Rnanmean .npg 4 8 with sort := false } (.mapreduce false) true [3, 0, 5] (codeKeys codes8)
      vals8 = specResult .nanmean Rnanmean codes8 vals8 4 := nanmean_sparse_unsorted

example : runKnown { mkCall Rnanmean .npg 4 8 with sort := false } (.mapreduce false) true [3, 0, 5] (codeKeys codes8)
      vals8 = .ok [Val.fin (3/2), Val.fin (-1), Val.fin 4, Val.fin (-1)] := nanmean_sparse_unsorted.trans nanmean_spec

/-- `sum` without `min_count`, with a user fill: the absent label 1 gets the user fill (no `H_absent` needed), whereas
    the eager path and the `reindex=True` plan leave the NumPy / intermediate fill there -/
example : runKnown (mkCall { Rsum with userFill := some (Val.fin 7) } .npg 2 2) (.mapreduce false) true [1]
      (codeKeys [0]) [Val.fin 1] = specResult .sum { Rsum with userFill := some (Val.fin 7) } [0] [Val.fin 1] 2 :=
  mapreduce_sparse_eq_spec { Rsum with userFill := some (Val.fin 7) } (.simple .sum .sum Val.zero)
    (mkCall { Rsum with userFill := some (Val.fin 7) } .npg 2 2) 2 true [1] [0] [Val.fin 1]
    rfl rfl rfl rfl (by decide +kernel) (by decide +kernel) rfl (by decide +kernel) (by decide +kernel) rfl
    (useGroupedCombine_float _ rfl rfl)

/-- without a fill the absent label raises, in the model and in the specification -/
example : runKnown (mkCall Rsum .npg 2 2) (.mapreduce false) true [1] (codeKeys [0]) [Val.fin 1] = .error "ValueError"
    ∧ specResult .sum Rsum [0] [Val.fin 1] 2 = .error "ValueError" := by decide +kernel

/-- flox's own engine, `nanmax` -/
example : runKnown (mkCall Rnanmax .flox 4 2) (.mapreduce false) true [5, 3] (codeKeys codes8) vals8
    = specResult .nanmax Rnanmax codes8 vals8 4 :=
  mapreduce_sparse_eq_spec_flox Rnanmax (.simple .nanmax .nanmax Val.ninf) (mkCall Rnanmax .flox 4 2) 4 true [5, 3]
    codes8 vals8 rfl rfl rfl Rnanmax_shape codes8_ok rfl (by decide +kernel) Rnanmax_minmax
    rfl (useGroupedCombine_float _ rfl rfl)

/-- `mapreduce_sparse_eq_dense` applies (count mask on: `H_absent` holds) -/
example : runKnown (mkCall Rnanmean .npg 4 2) (.mapreduce false) true [2, 1, 3, 2] (codeKeys codes8) vals8
    = runKnown (mkCall Rnanmean .npg 4 3) (.mapreduce true) true [4, 4] (codeKeys codes8) vals8 :=
  mapreduce_sparse_eq_dense Rnanmean (.mean true) (mkCall Rnanmean .npg 4 2) (mkCall Rnanmean .npg 4 3) 4 true
    [2, 1, 3, 2] [4, 4] codes8 vals8 rfl rfl rfl rfl rfl rfl Rnanmean_shape codes8_ok rfl
    (fun _ _ => Rnanmean_absent _) Rnanmean_dropped Rnanmean_minmax rfl (by decide) rfl
    (useGroupedCombine_float _ rfl rfl) (useGroupedCombine_float _ rfl rfl)

def RnanmeanNoFill : Resolved := { Rnanmean with userFill := none }

/-- the second conjunct of `H_dropped` (the first is shown necessary by `C02.H_dropped_counterexample`): no element and
    no requested label – the NaN placeholder group is masked -/
theorem H_dropped_counterexample_empty :
    ¬ HDropped RnanmeanNoFill 0 [] []
    ∧ runKnown (mkCall RnanmeanNoFill .npg 0 2) (.mapreduce false) true [0] (codeKeys []) [] = .error "ValueError"
    ∧ specResult .nanmean RnanmeanNoFill [] [] 0 = .ok [] := by decide +kernel

/-- with a valid dropped element (or a fill) `H_dropped` holds and the theorem applies -/
example : runKnown (mkCall RnanmeanNoFill .npg 1 2) (.mapreduce false) true [2] (codeKeys [0, -1]) [Val.fin 1, Val.fin 5]
    = specResult .nanmean RnanmeanNoFill [0, -1] [Val.fin 1, Val.fin 5] 1 :=
  mapreduce_sparse_eq_spec RnanmeanNoFill (.mean true) (mkCall RnanmeanNoFill .npg 1 2) 1 true [2] [0, -1]
    [Val.fin 1, Val.fin 5] rfl rfl rfl rfl (by decide +kernel) (by decide +kernel) rfl (by decide +kernel)
    (by decide +kernel) rfl (useGroupedCombine_float _ rfl rfl)

/-- `H_minmax` is necessary: without the count mask an all-NaN group keeps the intermediate fill `-inf` -/
theorem H_minmax_counterexample_sparse :
    Rnanmax0.shape? = some (.simple .nanmax .nanmax Val.ninf)
    ∧ HDropped Rnanmax0 1 [0] [Val.nan] ∧ ¬ HMinMax Rnanmax0 (.simple .nanmax .nanmax Val.ninf)
    ∧ runKnown (mkCall Rnanmax0 .npg 1 2) (.mapreduce false) true [1] (codeKeys [0]) [Val.nan] = .ok [Val.ninf]
    ∧ specResult .nanmax Rnanmax0 [0] [Val.nan] 1 = .ok [Val.nan] := by decide +kernel

/-- `chunks.sum = codes.length` is necessary: blocks that do not cover the array drop elements -/
theorem chunks_sum_counterexample_sparse :
    runKnown (mkCall Rnanmean .npg 4 2) (.mapreduce false) true [2, 1] (codeKeys codes8) vals8
      ≠ specResult .nanmean Rnanmean codes8 vals8 4 := by decide +kernel

/-- `chunks ≠ []` is not needed here (unlike `mapreduce_dense_eq_spec`): with no block at all the combine of nothing
    has the single NaN placeholder group, and every requested label gets the user fill -/
theorem nanmean_sparse_nil : runKnown (mkCall Rnanmean .npg 3 2) (.mapreduce false) true [] (codeKeys []) []
    = specResult .nanmean Rnanmean [] [] 3 :=
  mapreduce_sparse_eq_spec Rnanmean (.mean true) (mkCall Rnanmean .npg 3 2) 3 true [] [] []
    rfl rfl rfl rfl Rnanmean_shape (by decide) rfl Rnanmean_dropped Rnanmean_minmax rfl
    (useGroupedCombine_float _ rfl rfl)

example : runKnown (mkCall Rnanmean .npg 3 2) (.mapreduce false) true [] (codeKeys []) []
    = specResult .nanmean Rnanmean [] [] 3 := nanmean_sparse_nil

example : runKnown (mkCall Rnanmean .npg 3 2) (.mapreduce false) true [] (codeKeys []) []
    = .ok [Val.fin (-1), Val.fin (-1), Val.fin (-1)] := nanmean_sparse_nil.trans (by decide +kernel)

/-- `CodesOK` is necessary: a code above the range is an ordinary (unrequested) group here, and is masked -/
theorem codesOK_counterexample_sparse :
    ¬ CodesOK [0, 3] 1 ∧ HDropped RnanmeanNoFill 1 [0, 3] [Val.fin 1, Val.nan]
    ∧ runKnown (mkCall RnanmeanNoFill .npg 1 2) (.mapreduce false) true [2] (codeKeys [0, 3]) [Val.fin 1, Val.nan]
        = .error "ValueError"
    ∧ specResult .nanmean RnanmeanNoFill [0, 3] [Val.fin 1, Val.nan] 1 = .ok [Val.fin 1] := by decide +kernel

end E2E
end Flox
