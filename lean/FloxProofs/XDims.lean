/-
  Proofs about the metadata model of `xarray_reduce` (FloxModel/XDims.lean): the stable sort of `_restore_dim_order`
  (a strictly key-sorted permutation of its input is its output), the keys `lookup_order` gives, and the calls on which
  the model is compared with native xarray (`Supported`).
-/
import FloxModel.XDims
import FloxProofs.InsertionSort

namespace Flox.XDims

theorem insertByKey_eq (key : Dim → Nat) (x : Dim) : ∀ l, insertByKey key x l = insertBy (fun a b => key a ≤ key b) x l
  | [] => rfl
  | y :: ys => by rw [insertByKey, insertBy_cons, insertByKey_eq key x ys]

theorem sortByKey_eq_isort (key : Dim → Nat) : ∀ l, sortByKey key l = isort (fun a b => key a ≤ key b) l
  | [] => rfl
  | x :: xs => by rw [sortByKey, isort, sortByKey_eq_isort key xs, insertByKey_eq]

theorem sortByKey_perm (key : Dim → Nat) (l : List Dim) : (sortByKey key l).Perm l :=
  sortByKey_eq_isort key l ▸ isort_perm _ l

theorem sortByKey_sorted (key : Dim → Nat) (l : List Dim) : (sortByKey key l).Pairwise (fun a b => key a ≤ key b) :=
  sortByKey_eq_isort key l ▸ isort_sorted ⟨fun a b => Nat.le_total (key a) (key b), Nat.le_trans⟩ l

theorem sortByKey_eq_of_strict (key : Dim → Nat) (out target : List Dim)
    (hs : target.Pairwise (fun a b => key a < key b)) (hp : out.Perm target) : sortByKey key out = target := by
  have hperm := (sortByKey_perm key out).trans hp
  exact hperm.eq_of_pairwise (le := fun a b => key a ≤ key b)
    (fun a b ha hb hab hba => inj_of_nodup_map (List.pairwise_map.mpr (hs.imp Nat.ne_of_lt)) (hperm.mem_iff.1 ha) hb
      (Nat.le_antisymm hab hba))
    (sortByKey_sorted key out) (hs.imp Nat.le_of_lt)

theorem sortByKey_short (key : Dim → Nat) (l : List Dim) (h : ¬ l.length > 1) : sortByKey key l = l := by
  match l, h with
  | [], _ => rfl
  | [x], _ => rfl
  | _ :: _ :: _, h => simp at h

/-- the `ndim > 1` guard of flox in front of `_restore_dim_order` is immaterial -/
theorem restore_guard (out v : List Dim) (g : Grouper) (b : Bool) :
    (if out.length > 1 then (.ok (restore out v g b) : Except Err (List Dim)) else .ok out) = .ok (restore out v g b) := by
  split
  · rfl
  · rename_i h
    rw [restore, sortByKey_short _ _ h]

theorem pairwise_idxOf {v : List Dim} (hv : v.Nodup) : v.Pairwise (fun a b => v.idxOf a < v.idxOf b) := by
  rw [List.pairwise_iff_getElem]
  intro i j hi hj hij
  rwa [hv.idxOf_getElem, hv.idxOf_getElem]

/-- the general shape: an optional element of lowest key, the surviving (possibly renamed) dims of the template in template
    order, an optional element of highest key -/
theorem sort_filterMap (v : List Dim) (hv : v.Nodup) (f : Dim → Option Dim) (key : Dim → Nat)
    (hkey : ∀ x ∈ v, ∀ y, f x = some y → key y = v.idxOf x + 1)
    (pre post : Option Dim) (kpre : ∀ p ∈ pre, key p = 0) (kpost : ∀ q ∈ post, key q = v.length + 1)
    (out : List Dim) (hperm : out.Perm (pre.toList ++ v.filterMap f ++ post.toList)) :
    sortByKey key out = pre.toList ++ v.filterMap f ++ post.toList := by
  apply sortByKey_eq_of_strict key out _ _ hperm
  have hmid : (v.filterMap f).Pairwise (fun a b => key a < key b) := by
    rw [List.pairwise_filterMap]
    refine (List.Pairwise.and_mem.1 (pairwise_idxOf hv)).imp ?_
    intro a b ⟨ha, hb, hab⟩ y hy y' hy'
    rw [hkey a ha y hy, hkey b hb y' hy']
    exact Nat.succ_lt_succ hab
  have hmidkey : ∀ a ∈ v.filterMap f, 0 < key a ∧ key a < v.length + 1 := by
    intro a ha
    obtain ⟨x, hx, hfx⟩ := List.mem_filterMap.1 ha
    rw [hkey x hx a hfx]
    exact ⟨Nat.succ_pos _, Nat.succ_lt_succ (List.idxOf_lt_length_of_mem hx)⟩
  have hopt : ∀ o : Option Dim, o.toList.Pairwise (fun a b => key a < key b) := by
    intro o; cases o <;> simp
  rw [List.pairwise_append, List.pairwise_append]
  refine ⟨⟨hopt pre, hmid, fun a ha b hb => ?_⟩, hopt post, fun a ha b hb => ?_⟩
  · rw [kpre a (Option.mem_toList.1 ha)]
    exact (hmidkey b hb).1
  · rw [kpost b (Option.mem_toList.1 hb)]
    rcases List.mem_append.1 ha with ha | ha
    · rw [kpre a (Option.mem_toList.1 ha)]
      exact Nat.succ_pos _
    · exact (hmidkey a ha).2

theorem lookupKey_of_not_renamed (v : List Dim) (g : Dim) (ds : List Dim) (b : Bool) (x : Dim)
    (h : ¬ (x = g ∧ ds.length = 1)) :
    lookupKey v g ds b x = if x ∈ v then v.idxOf x + 1 else v.length + 1 := by
  simp [lookupKey, h]

theorem lookupKey_group_da (v : List Dim) (g d : Dim) (hd : d ∈ v) :
    lookupKey v g [d] false g = v.idxOf d + 1 := by
  simp [lookupKey, hd]

theorem lookupKey_group_ds (v : List Dim) (g d : Dim) : lookupKey v g [d] true g = 0 := by
  simp [lookupKey]

theorem lookupKey_nd (v : List Dim) (g : Dim) (ds : List Dim) (b : Bool) (hds : ds.length ≠ 1) (hg : g ∉ v) :
    lookupKey v g ds b g = v.length + 1 := by
  rw [lookupKey_of_not_renamed v g ds b g (fun h => hds h.2), if_neg hg]

/-- The calls on which flox and native xarray are claimed to agree on the result dims.  Every field is a named
    restriction; FloxProps/C15.lean shows by counterexample that each of the starred ones is necessary. -/
structure Supported (c : Call) (t : List Dim) : Prop where
  /-- every data variable has all grouper dims (no `xr.broadcast`)                                   (*) -/
  noBroadcast : needsBroadcast c = false
  varsNodup : ∀ v ∈ c.vars, v.2.Nodup
  /-- a group name that is also a dim of a variable is the grouper's own dimension coordinate -/
  groupNamesFresh : ∀ g ∈ c.groupers, ∀ v ∈ c.vars, groupName g ∈ v.2 → g.isbin = false ∧ g.dims = [g.name]
  /-- binning reduces at least one dim of the grouper (otherwise native does a plain reduction)        (*) -/
  binsReduceGrouperDim : c.groupers.any (·.isbin) = true → t.all (· ∉ grouperDims c.groupers) = false
  /-- the plain-reduction shortcut is compared only for groupers along one dim                        (*) -/
  shortcutOneDim : shortcut c t = true → (grouperDims c.groupers).length = 1
  /-- N-D groupers and several groupers: all grouper dims are reduced (native refuses anything else) -/
  nativeDefined : shortcut c t = false →
    (∃ g d, c.groupers = [g] ∧ g.dims = [d]) ∨ ∀ x ∈ grouperDims c.groupers, x ∈ t
  /-- `_restore_dim_order` recognises the group dim: not binned if 1-D, and 1-D and not binned in a Dataset  (*) -/
  groupDimRecognised : ∀ g, c.groupers = [g] → shortcut c t = false →
    (c.isDataset = true → g.isbin = false ∧ g.dims.length = 1) ∧
    (c.isDataset = false → g.dims.length = 1 → g.isbin = false)
  /-- pass-through variables are compared for one grouper only                                         (*) -/
  passThroughOneGrouper : shortcut c t = false → ∀ v ∈ c.vars, missing c t v.2 = true → c.groupers.length = 1
  /-- a reduced variable has every reduced dim (otherwise apply_ufunc raises)                          (*) -/
  coreDimsPresent : shortcut c t = false → ∀ v ∈ c.vars, missing c t v.2 = false → ∀ x ∈ t, x ∈ v.2

theorem groupNames_single (g : Grouper) : groupNames [g] = [groupName g] := rfl

theorem grouperDims_single_1d {g : Grouper} {d : Dim} (h : g.dims = [d]) : grouperDims [g] = [d] := by
  simp [grouperDims, addNew, h]

/-- when binning always reduces a dim of the grouper, the plain-reduction shortcut is taken exactly when no reduced dim
    belongs to a grouper, which is native xarray's criterion -/
theorem shortcut_eq_all {c : Call} {t : List Dim}
    (hbins : c.groupers.any (·.isbin) = true → t.all (· ∉ grouperDims c.groupers) = false) :
    shortcut c t = t.all (· ∉ grouperDims c.groupers) := by
  unfold shortcut
  cases hbin : c.groupers.any (·.isbin)
  · rw [Bool.not_false, Bool.and_true]
  · rw [hbins hbin, Bool.false_and]

namespace Supported
variable {c : Call} {t : List Dim} (S : Supported c t)
include S

theorem gd_subset {v : String × List Dim} (hv : v ∈ c.vars) : ∀ x ∈ grouperDims c.groupers, x ∈ v.2 := by
  have h := S.noBroadcast
  simp only [needsBroadcast, List.any_eq_false, Bool.not_eq_true, Bool.not_eq_false', List.all_eq_true,
    decide_eq_true_eq] at h
  exact h v hv

theorem not_missing (hs : shortcut c t = false) {v : String × List Dim} (hv : v ∈ c.vars) : missing c t v.2 = false := by
  obtain ⟨x, hxt, hxg⟩ := List.all_eq_false.1 (shortcut_eq_all S.binsReduceGrouperDim ▸ hs)
  have hxv : x ∈ v.2 := S.gd_subset hv x (by simpa using hxg)
  rw [missing, List.all_eq_false.2 ⟨x, hxt, by simpa using hxv⟩, Bool.and_false]

theorem bdims_eq (v : List Dim) : bdims c t v = v := by
  rw [bdims, S.noBroadcast]
  rfl

theorem gd_reduced (hs : shortcut c t = false) : ∀ x ∈ grouperDims c.groupers, x ∈ t := by
  rcases S.nativeDefined hs with ⟨g, d, hg, hd⟩ | h
  · have hall := shortcut_eq_all S.binsReduceGrouperDim ▸ hs
    rw [hg, grouperDims_single_1d hd] at hall ⊢
    simpa using hall
  · exact h

theorem ufuncDims_eq (hs : shortcut c t = false) (v : List Dim) :
    ufuncDims c t v = v.filter (· ∉ t) ++ groupNames c.groupers := by
  have hgt := S.gd_reduced hs
  have e1 : (grouperDims c.groupers).filter (· ∉ t) = [] :=
    List.filter_eq_nil_iff.2 fun x hx => by simpa using hgt x hx
  have e2 : v.filter (fun d => d ∉ grouperDims c.groupers ∧ d ∉ t) = v.filter (· ∉ t) :=
    List.filter_congr fun x _ => by
      by_cases hxt : x ∈ t
      · simp [hxt]
      · simpa [hxt] using fun h => hxt (hgt x h)
  simp only [ufuncDims, S.bdims_eq, e1, e2, List.append_nil]

end Supported

end Flox.XDims
