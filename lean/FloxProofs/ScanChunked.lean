/-
  C10: the dask path.  A carried state represents a history (`Rep`: group by group the same scan state; for nancumsum,
  where the state is looked up and added, literally the groups with their totals).  The combine respects this
  (`rep_combine`), so every bracketing of the per-block states represents the concatenated blocks (`tree_rep`), and a
  block's output computed from such a state is the scan continued from the history (`rep_final`).
-/
import FloxProofs.ScanKernels
import FloxProofs.Members

namespace Flox
namespace Scan

theorem mem_insertUniq (x g : Int) (ks : List Int) : x ∈ insertUniq g ks ↔ x = g ∨ x ∈ ks :=
  mem_insert_of_eqns (lt := (· < ·)) (ins := insertUniq) (fun _ => rfl) (fun _ _ _ => rfl) x g ks

theorem uniq_cons (a : Int) (r : List Int) : uniq (a :: r) = insertUniq a (uniq r) := rfl

theorem mem_uniq (x : Int) (l : List Int) : x ∈ uniq l ↔ x ∈ l := mem_foldr_insert mem_insertUniq x l

def StrictSorted (s : List Int) : Prop := s.Pairwise (· < ·)

theorem insertUniq_sorted (a : Int) (s : List Int) (hs : StrictSorted s) : StrictSorted (insertUniq a s) :=
  pairwise_insert_of_eqns (ins := insertUniq) (fun _ => rfl) (fun _ _ _ => rfl) Int.lt_trans (by omega) a hs

theorem insertUniq_length (a : Int) (s : List Int) (hs : StrictSorted s) :
    (insertUniq a s).length = if a ∈ s then s.length else s.length + 1 := by
  induction s with
  | nil => simp [insertUniq]
  | cons k ks ih =>
    obtain ⟨hk, hks⟩ := List.pairwise_cons.mp hs
    simp only [insertUniq]
    by_cases h1 : a < k
    · have hnot : a ∉ k :: ks := by
        intro hm
        rcases List.mem_cons.mp hm with rfl | hm
        · omega
        · have := hk a hm; omega
      rw [if_pos h1, if_neg hnot]; rfl
    · rw [if_neg h1]
      by_cases h2 : a = k
      · subst h2; simp
      · rw [if_neg h2, List.length_cons, ih hks]
        simp [h2]
        split <;> rfl

theorem uniq_sorted (l : List Int) : StrictSorted (uniq l) := by
  induction l with
  | nil => exact List.Pairwise.nil
  | cons a r ih => rw [uniq_cons]; exact insertUniq_sorted a _ ih

theorem uniq_length_cons (a : Int) (r : List Int) :
    (uniq (a :: r)).length = if a ∈ r then (uniq r).length else (uniq r).length + 1 := by
  rw [uniq_cons, insertUniq_length a _ (uniq_sorted r)]
  simp only [mem_uniq]

theorem uniq_length_le (l : List Int) : (uniq l).length ≤ l.length := by
  induction l with
  | nil => simp [uniq]
  | cons a r ih => rw [uniq_length_cons]; split <;> simp <;> omega

theorem nodup_of_uniq_length (l : List Int) (h : (uniq l).length = l.length) : l.Nodup := by
  induction l with
  | nil => simp
  | cons a r ih =>
    have hle := uniq_length_le r
    rw [uniq_length_cons, List.length_cons] at h
    by_cases ha : a ∈ r
    · rw [if_pos ha] at h; omega
    · rw [if_neg ha] at h
      exact List.nodup_cons.mpr ⟨ha, ih (by omega)⟩

theorem isFill_of_ne {f : Func} (hf : f ≠ .nancumsum) : isFill f = true := by
  cases f
  · exact absurd rfl hf
  all_goals rfl

/-- a state list holds one entry per key; stating its members with `count` needs no `Nodup` of the keys -/
theorem mem_map_state (g : Int) (ks : List Int) (φ : Int → Val) :
    mem g (ks.map fun k => (k, φ k)) = List.replicate (ks.count g) (φ g) := by
  induction ks with
  | nil => simp
  | cons k r ih =>
    rw [List.map_cons, mem_cons, ih]
    by_cases h : k = g
    · subst h; simp [List.replicate_succ]
    · simp [h]

theorem keys_map_state (ks : List Int) (φ : Int → Val) : keys (ks.map fun k => (k, φ k)) = ks := by
  simp [keys, Function.comp_def]

theorem lookup_map_state (g : Int) (ks : List Int) (φ : Int → Val) :
    (ks.map fun k => (k, φ k)).lookup g = if g ∈ ks then some (φ g) else none := by
  induction ks with
  | nil => simp
  | cons k r ih =>
    simp only [List.map_cons, List.lookup_cons, List.mem_cons]
    by_cases h : g = k
    · subst h; simp
    · have : (g == k) = false := by simpa using h
      simp [this, ih, h]

theorem scanLast_replicate_fill (f : Func) (hf : f ≠ .nancumsum) (c : Nat) (x : Val) :
    scanLast f (List.replicate c x) = if c = 0 then Val.nan else x := by
  induction c with
  | zero => simp [init_fill f hf]
  | succ n ih =>
    rw [List.replicate_succ', scanLast_snoc, ih, step_fill f hf]
    by_cases hn : n = 0 <;> cases x <;> simp [hn, Val.isNaN]

theorem step_bfill : step .bfill = step .ffill := rfl
theorem init_bfill : init .bfill = init .ffill := rfl

theorem groupedScanFrom_fill (f : Func) (hf : f ≠ .nancumsum) (pre l : AA) :
    groupedScanFrom f pre l = groupedScanFrom .ffill pre l := by
  cases f
  · exact absurd rfl hf
  · rfl
  · induction l generalizing pre with
    | nil => rfl
    | cons p r ih => rw [groupedScanFrom_cons, groupedScanFrom_cons, ih]; rfl

theorem groupedScan_fill (f : Func) (hf : f ≠ .nancumsum) (l : AA) : groupedScan f l = groupedScan .ffill l :=
  groupedScanFrom_fill f hf [] l

theorem lasts_SEq (f : Func) (hf : f ≠ .nancumsum) (X : AA) : SEq f (lasts X) X := by
  intro g
  unfold lasts
  rw [mem_map_state, scanLast_replicate_fill f hf]
  by_cases hg : g ∈ keys X
  · have : (uniq (keys X)).count g ≠ 0 := by
      rw [Ne, List.count_eq_zero]; simpa [mem_uniq] using hg
    rw [if_neg this, scanLast_fill f hf]
  · have : (uniq (keys X)).count g = 0 := by
      rw [List.count_eq_zero]; simpa [mem_uniq] using hg
    rw [if_pos this, mem_eq_nil_of_not_mem_keys g X hg, scanLast_nil, init_fill f hf]

theorem groupedReduce_fill (f : Func) (hf : f ≠ .nancumsum) (b : AA) : groupedReduce f b = lasts b := by
  cases f
  · exact absurd rfl hf
  all_goals rfl

theorem step_step_fill (f : Func) (hf : f ≠ .nancumsum) (x e v : Val) (h : e.isNaN = false → x = e) :
    step f x (step f e v) = step f x v := by
  simp only [step_fill f hf]
  by_cases hv : v.isNaN = true
  · by_cases he : e.isNaN = true
    · simp [hv, he]
    · simp [hv, he, h (by simpa using he)]
  · simp [hv]

/-- re-running the fill on `state ++ (filled block)` gives the fill of `history ++ block`: where the block's own fill
    (from `Bp`) has a value it is the right one, where it has none the state supplies it -/
theorem fill_rescan (f : Func) (hf : f ≠ .nancumsum) (b L Q Bp : AA) (h1 : SEq f L Q)
    (h2 : ∀ g, (scanLast f (mem g Bp)).isNaN = false → scanLast f (mem g Q) = scanLast f (mem g Bp)) :
    groupedScanFrom f L ((keys b).zip (groupedScanFrom f Bp b)) = groupedScanFrom f Q b := by
  induction b generalizing L Q Bp with
  | nil => rfl
  | cons p r ih =>
    have hhead : step f (scanLast f (mem p.1 L)) (step f (scanLast f (mem p.1 Bp)) p.2) =
        step f (scanLast f (mem p.1 Q)) p.2 := by
      rw [h1 p.1, step_step_fill f hf _ _ _ (h2 p.1)]
    rw [groupedScanFrom_cons f Bp, groupedScanFrom_cons f Q, keys, List.map_cons, List.zip_cons_cons,
      groupedScanFrom_cons, hhead]
    congr 1
    apply ih
    · intro g
      rw [scanLast_mem_snoc, scanLast_mem_snoc]
      by_cases hg : p.1 = g
      · subst hg; simpa using hhead
      · simpa [hg] using h1 g
    · intro g
      rw [scanLast_mem_snoc, scanLast_mem_snoc]
      by_cases hg : p.1 = g
      · subst hg
        rw [if_pos rfl, if_pos rfl, step_fill f hf, step_fill f hf]
        by_cases hv : p.2.isNaN = true
        · simpa [hv] using h2 p.1
        · simp [hv]
      · rw [if_neg hg, if_neg hg]; exact h2 g

/-- the carried state is updated with the re-scanned values: a fill is idempotent, so group by group they carry what the
    inputs carry -/
theorem fill_result_SEq (f : Func) (hf : f ≠ .nancumsum) (l r : AA) :
    SEq f (l ++ (keys r).zip (groupedScanFrom f l r)) (l ++ r) := by
  intro g
  rw [mem_append, mem_append, groupedScanFrom_members, scanLast_append_foldl, scanLast_append_foldl]
  exact foldl_scanFrom_fill f hf _ _

theorem binopResult_fill (f : Func) (hf : f ≠ .nancumsum) (l r : AA) :
    binopResult f l r = (keys r).zip (groupedScanFrom f l r) := by
  unfold binopResult
  rw [if_pos (isFill_of_ne hf), ffillEngine_eq_groupedScan, groupedScan_append, groupedScanFrom_fill f hf,
    ← groupedScan_length .ffill l, List.drop_left]

theorem combine_fill (f : Func) (hf : f ≠ .nancumsum) (l r A B : AA) (hl : SEq f l A) (hr : SEq f r B) :
    SEq f (combineState f l r) (A ++ B) := by
  unfold combineState
  rw [binopResult_fill f hf]
  exact (lasts_SEq f hf _).trans ((fill_result_SEq f hf l r).trans (SEq.append hl hr))

/-- `S` is the canonical state of the history `X`: its groups with the running totals -/
def IsState (S X : AA) : Prop :=
  ∃ ks : List Int, S = ks.map (fun k => (k, scanLast .nancumsum (mem k X))) ∧ ∀ g, g ∈ ks ↔ g ∈ keys X

theorem NoInf.append {a b : AA} (ha : NoInf a) (hb : NoInf b) : NoInf (a ++ b) := by
  intro p hp
  rcases List.mem_append.mp hp with h | h
  · exact ha p h
  · exact hb p h

theorem NoInf.left {a b : AA} (h : NoInf (a ++ b)) : NoInf a := fun p hp => h p (List.mem_append_left _ hp)
theorem NoInf.right {a b : AA} (h : NoInf (a ++ b)) : NoInf b := fun p hp => h p (List.mem_append_right _ hp)

theorem foldl_cumsum_fin (ms : List Val) (h : ∀ v ∈ ms, v ≠ Val.pinf ∧ v ≠ Val.ninf) (q : Rat) :
    ∃ q', ms.foldl (step .nancumsum) (Val.fin q) = Val.fin q' := by
  induction ms generalizing q with
  | nil => exact ⟨q, rfl⟩
  | cons v r ih =>
    have hv := h v (List.mem_cons_self)
    have hr : ∀ v ∈ r, v ≠ Val.pinf ∧ v ≠ Val.ninf := fun w hw => h w (List.mem_cons_of_mem _ hw)
    cases v with
    | nan => simpa [step, Val.isNaN, Val.zero, Val.add] using ih hr (q + 0)
    | pinf => exact absurd rfl hv.1
    | ninf => exact absurd rfl hv.2
    | fin a => simpa [step, Val.isNaN, Val.add] using ih hr (q + a)

/-- without `±inf` every running total is finite (in particular not NaN, so `nanlast` cannot skip it) -/
theorem scanLast_cumsum_fin (g : Int) (X : AA) (h : NoInf X) : ∃ q, scanLast .nancumsum (mem g X) = Val.fin q :=
  foldl_cumsum_fin _ (fun v hv => h (g, v) ((mem_mem_iff g v X).mp hv)) 0

theorem IsState.lookupD {S X : AA} (h : IsState S X) (g : Int) :
    lookupD g S Val.zero = scanLast .nancumsum (mem g X) := by
  obtain ⟨ks, rfl, hk⟩ := h
  unfold Scan.lookupD
  rw [lookup_map_state]
  by_cases hg : g ∈ ks
  · simp [hg]
  · have : g ∉ keys X := fun h' => hg ((hk g).mpr h')
    simp [hg, mem_eq_nil_of_not_mem_keys g X this, init]

theorem groupedReduce_isState (b : AA) : IsState (groupedReduce .nancumsum b) b := by
  refine ⟨uniq (keys b), ?_, fun g => mem_uniq g _⟩
  unfold groupedReduce
  apply List.map_congr_left
  intro k _
  rw [scanLast_nancumsum]; rfl

/-- `np.add` of the reindexed left state: the right state's groups, now with the totals of both histories -/
theorem binopResult_cumsum (l r A B : AA) (hl : IsState l A) (hr : IsState r B) :
    binopResult .nancumsum l r = (keys r).map fun k => (k, scanLast .nancumsum (mem k (A ++ B))) := by
  obtain ⟨kr, rfl, _⟩ := hr
  simp only [binopResult, isFill, Bool.false_eq_true, if_false, keys, List.map_map]
  apply List.map_congr_left
  intro k _
  simp only [Function.comp_def, hl.lookupD, mem_append, scanLast_append, comb]

/-- `nanlast` of a group's entries in `left ++ result`: the entry of `result` if there is one, else that of `left` -/
theorem lastNonNaN_states (a b : Nat) (x y : Val) (hy : y.isNaN = false) (hab : a + b ≠ 0)
    (h : b = 0 → x = y) : lastNonNaN (List.replicate a x ++ List.replicate b y) = y := by
  rw [← scanLast_fill .ffill (by decide), scanLast_append, scanLast_replicate_fill _ (by decide),
    scanLast_replicate_fill _ (by decide), comb_fill _ (by decide)]
  by_cases hb : b = 0
  · have ha : a ≠ 0 := by omega
    simp [hb, ha, h hb]
  · simp [hb, hy]

theorem combineState_isState (l r A B : AA) (hl : IsState l A) (hr : IsState r B) (hA : NoInf A) (hB : NoInf B) :
    IsState (combineState .nancumsum l r) (A ++ B) := by
  unfold combineState
  rw [binopResult_cumsum l r A B hl hr]
  obtain ⟨kl, rfl, hkl⟩ := hl
  obtain ⟨kr, rfl, hkr⟩ := hr
  rw [keys_map_state]
  refine ⟨_, List.map_congr_left fun g hg => ?_, fun g => ?_⟩
  · rw [mem_uniq, keys_append, keys_map_state, keys_map_state, List.mem_append] at hg
    rw [mem_append, mem_map_state, mem_map_state]
    obtain ⟨q, hq⟩ := scanLast_cumsum_fin g (A ++ B) (hA.append hB)
    congr 1
    refine lastNonNaN_states _ _ _ _ (by rw [hq]; rfl) ?_ ?_
    · intro h0
      exact hg.elim (List.count_eq_zero.mp (by omega)) (List.count_eq_zero.mp (by omega))
    · intro hb
      have : g ∉ keys B := fun h' => List.count_eq_zero.mp hb ((hkr g).mpr h')
      rw [mem_append, mem_eq_nil_of_not_mem_keys g B this, List.append_nil]
  · rw [mem_uniq, keys_append, keys_map_state, keys_map_state, keys_append, List.mem_append, List.mem_append, hkl, hkr]

/-- adding the carried totals to the block's own scan gives the scan continued from the history -/
theorem cumsum_shift (S P : AA) (hS : ∀ g, lookupD g S Val.zero = scanLast .nancumsum (mem g P)) (b Bp : AA) :
    vals (((keys b).zip (groupedScanFrom .nancumsum Bp b)).map fun p => (p.1, Val.add (lookupD p.1 S Val.zero) p.2)) =
      groupedScanFrom .nancumsum (P ++ Bp) b := by
  induction b generalizing Bp with
  | nil => rfl
  | cons p r ih =>
    have := ih (Bp ++ [p])
    simp only [keys, vals] at this
    simp only [keys, List.map_cons, groupedScanFrom_cons, List.zip_cons_cons, vals]
    rw [this, List.append_assoc]
    congr 1
    rw [hS, mem_append, scanLast_append]
    exact (Val.add_assoc _ _ _).symm

/-- hypothesis of the nancumsum theorems: no `±inf` in the data (findings C10-F2, C10-F3) -/
def Good (f : Func) (l : AA) : Prop := f = .nancumsum → NoInf l

/-- the carried state `S` represents the history `X` -/
def Rep (f : Func) (S X : AA) : Prop :=
  match f with
  | .nancumsum => IsState S X
  | f => SEq f S X

theorem Good.append {f : Func} {a b : AA} (ha : Good f a) (hb : Good f b) : Good f (a ++ b) :=
  fun h => NoInf.append (ha h) (hb h)

theorem chunkScan_eq (f : Func) (b : AA) (hb : Good f b) : chunkScan f b = (keys b).zip (groupedScan f b) := by
  unfold chunkScan
  cases f
  · simp only [isFill, Bool.false_eq_true, if_false]
    rw [npgNancumsum_eq_groupedScan b (hb rfl)]
  · simp only [isFill, if_true]
    rw [ffillEngine_eq_groupedScan]
  · simp only [isFill, if_true]
    rw [ffillEngine_eq_groupedScan, groupedScan_fill .bfill (by decide)]

theorem first_block (f : Func) (b : AA) (hb : Good f b) : vals (chunkScan f b) = groupedScan f b := by
  rw [chunkScan_eq f b hb]
  exact vals_zip _ _ (by rw [groupedScan_length, keys_length])

theorem rep_fill {f : Func} (hf : f ≠ .nancumsum) (S X : AA) : Rep f S X ↔ SEq f S X := by
  cases f
  · exact absurd rfl hf
  all_goals exact Iff.rfl

theorem rep_leaf (f : Func) (b : AA) : Rep f (groupedReduce f b) b := by
  by_cases hf : f = .nancumsum
  · subst hf; exact groupedReduce_isState b
  · rw [rep_fill hf, groupedReduce_fill f hf]; exact lasts_SEq f hf b

/-- the state-combine is a homomorphism: the states of two adjacent histories combine to a state of their concatenation.
    `Rep` does not determine the state itself, only what every later step reads from it. -/
theorem rep_combine (f : Func) (l r A B : AA) (hl : Rep f l A) (hr : Rep f r B) (hA : Good f A) (hB : Good f B) :
    Rep f (combineState f l r) (A ++ B) := by
  by_cases hf : f = .nancumsum
  · subst hf; exact combineState_isState l r A B hl hr (hA rfl) (hB rfl)
  · rw [rep_fill hf] at hl hr ⊢; exact combine_fill f hf l r A B hl hr

theorem rep_combine_assoc (f : Func) (a b c : AA) (ha : Good f a) (hb : Good f b) (hc : Good f c) :
    Rep f (combineState f (combineState f (groupedReduce f a) (groupedReduce f b)) (groupedReduce f c)) (a ++ b ++ c) ∧
    Rep f (combineState f (groupedReduce f a) (combineState f (groupedReduce f b) (groupedReduce f c))) (a ++ b ++ c) := by
  constructor
  · exact rep_combine f _ _ _ _ (rep_combine f _ _ _ _ (rep_leaf f a) (rep_leaf f b) ha hb) (rep_leaf f c)
      (Good.append ha hb) hc
  · rw [List.append_assoc]
    exact rep_combine f _ _ _ _ (rep_leaf f a) (rep_combine f _ _ _ _ (rep_leaf f b) (rep_leaf f c) hb hc) ha
      (Good.append hb hc)

theorem rep_final (f : Func) (S P b : AA) (hS : Rep f S P) (hb : Good f b) :
    vals (binopResult f S (chunkScan f b)) = groupedScanFrom f P b := by
  rw [chunkScan_eq f b hb]
  cases f
  · have := cumsum_shift S P hS.lookupD b []
    simpa [binopResult, isFill, groupedScan] using this
  all_goals
    rw [binopResult_fill _ (by decide),
      keys_zip _ _ (by rw [groupedScan_length, keys_length]),
      vals_zip _ _ (by rw [groupedScanFrom_length, List.length_zip, groupedScan_length, keys_length]; simp)]
    exact fill_rescan _ (by decide) b S P [] hS (by intro g; simp [init, Val.isNaN])

theorem good_flatten_getD {f : Func} (all : List AA) (h : ∀ b ∈ all, Good f b) (js : List Nat) :
    Good f (js.map (all.getD · [])).flatten := by
  intro hf p hp
  obtain ⟨b, hb, hpb⟩ := List.mem_flatten.mp hp
  obtain ⟨j, _, rfl⟩ := List.mem_map.mp hb
  by_cases hj : j < all.length
  · rw [List.getD_eq_getElem?_getD, List.getElem?_eq_getElem hj] at hpb
    exact h _ (List.getElem_mem hj) hf p hpb
  · rw [List.getD_eq_getElem?_getD, List.getElem?_eq_none (by omega)] at hpb
    simp at hpb

/-- any bracketing of the per-block states gives the state of the concatenated blocks (dask's Blelloch up-sweep /
    down-sweep is one family of bracketings) -/
theorem tree_rep (f : Func) (all : List AA) (hall : ∀ b ∈ all, Good f b) (t : BTree) :
    Rep f (t.eval (combineState f) (fun j => groupedReduce f (all.getD j [])))
      ((t.leaves.map (all.getD · [])).flatten) := by
  induction t with
  | leaf i => simpa [BTree.eval, BTree.leaves] using rep_leaf f (all.getD i [])
  | node l r ihl ihr =>
    simp only [BTree.eval, BTree.leaves, List.map_append, List.flatten_append]
    exact rep_combine f _ _ _ _ ihl ihr (good_flatten_getD all hall _) (good_flatten_getD all hall _)

/-- the trees handed to `scanChunked` bracket the right blocks in the right order -/
def TreesOK (trees : List BTree) (nblocks : Nat) : Prop :=
  ∀ i, 0 < i → i < nblocks → (trees.getD (i - 1) (.leaf 0)).leaves = List.range i

theorem scanChunkedFrom_eq (f : Func) (trees : List BTree) (all : List AA) (hall : ∀ b ∈ all, Good f b)
    (ht : TreesOK trees all.length) (pre rest : List AA) (h : all = pre ++ rest) :
    scanChunkedFrom f trees all pre.length rest = groupedScanFrom f pre.flatten rest.flatten := by
  induction rest generalizing pre with
  | nil => simp [scanChunkedFrom]
  | cons b r ih =>
    have hb : Good f b := hall b (by rw [h]; simp)
    have hrec := ih (pre ++ [b]) (by rw [h]; simp)
    simp only [List.length_append, List.length_cons, List.length_nil, List.flatten_append, List.flatten_cons,
      List.flatten_nil, List.append_nil] at hrec
    simp only [scanChunkedFrom, List.flatten_cons]
    rw [groupedScanFrom_append, hrec]
    congr 1
    by_cases h0 : pre.length = 0
    · have : pre = [] := List.length_eq_zero_iff.mp h0
      subst this
      simpa [groupedScan] using first_block f b hb
    · rw [if_neg h0]
      apply rep_final f _ _ b _ hb
      have hlen : pre.length < all.length := by rw [h]; simp
      have hrep := tree_rep f all hall (trees.getD (pre.length - 1) (.leaf 0))
      have hpre : (List.range pre.length).map (all.getD · []) = pre :=
        (map_range_eq_map rfl fun i hi => by
          rw [h, List.getD_eq_getElem?_getD, List.getElem?_append_left hi, List.getElem?_eq_getElem hi]
          rfl).trans (List.map_id pre)
      rwa [ht pre.length (by omega) hlen, hpre] at hrep

theorem scanChunked_eq (f : Func) (trees : List BTree) (blocks : List AA) (hall : ∀ b ∈ blocks, Good f b)
    (ht : TreesOK trees blocks.length) : scanChunked f trees blocks = groupedScan f blocks.flatten := by
  have := scanChunkedFrom_eq f trees blocks hall ht [] blocks rfl
  simpa [scanChunked, groupedScan] using this

end Scan
end Flox
