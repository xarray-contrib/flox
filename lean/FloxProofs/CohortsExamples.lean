/-
  Non-vacuity examples and necessity counterexamples for the `cohorts` theorems (`FloxProofs/Cohorts.lean`).
-/
import FloxProofs.Cohorts
import FloxProofs.EndToEndSparseExamples

namespace Flox
namespace E2E

/-! `codes8 = [0, -1, 2, 0, 2, 2, 0, 3]` in blocks `[2, 1, 3, 2]`: label 0 lives in blocks 0, 2, 3; label 2 in blocks
  1, 2; label 3 (all NaN) in block 3; label 1 is requested but absent; one element is dropped. -/

/-- two cohorts sharing block 2 (dict order not sorted by label) -/
def cs8a : List (List Nat × List Rat) := [([0, 2, 3], [0, 3]), ([1, 2], [2])]
/-- another sound structure: labels in a different order, other block sets -/
def cs8b : List (List Nat × List Rat) := [([0, 1, 2, 3], [2, 0]), ([3], [3])]

theorem cs8a_sound : CohortsSound [2, 1, 3, 2] codes8 4 cs8a := cohortsSound_of_check _ _ _ _ (by decide +kernel)
theorem cs8b_sound : CohortsSound [2, 1, 3, 2] codes8 4 cs8b := cohortsSound_of_check _ _ _ _ (by decide +kernel)

theorem cohortFill_of_fill {c : Call} {R : Resolved} {n : Nat} {cs : List (List Nat × List Rat)}
    (harg : c.fillArg = R.userFill) (hfill : R.userFill ≠ none) : HCohortFill c R n cs :=
  ⟨fun _ _ _ => harg, fun _ _ => harg ▸ hfill⟩

/-- `cohorts_eq_spec` applies (`nanmean`, `min_count=1`, fill -1; `fill_value` argument = user fill) -/
theorem nanmean_cohorts :
    runKnown (mkCall Rnanmean .npg 4 2) (.cohorts cs8a) true [2, 1, 3, 2] (codeKeys codes8) vals8
      = specResult .nanmean Rnanmean codes8 vals8 4 :=
  cohorts_eq_spec Rnanmean (.mean true) (mkCall Rnanmean .npg 4 2) 4 true [2, 1, 3, 2] codes8 vals8 cs8a
    rfl rfl rfl rfl Rnanmean_shape rfl cs8a_sound (fun _ _ _ _ => Rnanmean_absent _)
    Rnanmean_minmax (cohortFill_of_fill rfl (by decide)) rfl (useGroupedCombine_float _ rfl rfl)

example : runKnown (mkCall Rnanmean .npg 4 2) (.cohorts cs8a) true [2, 1, 3, 2] (codeKeys codes8) vals8
    = specResult .nanmean Rnanmean codes8 vals8 4 := nanmean_cohorts

/-- the common value (the kernel cannot evaluate `List.mergeSort` – well-founded recursion – on several labels, so the
    sorted call is evaluated through the theorem; the unsorted one below directly) -/
example : runKnown (mkCall Rnanmean .npg 4 2) (.cohorts cs8a) true [2, 1, 3, 2] (codeKeys codes8) vals8
    = .ok [Val.fin (3/2), Val.fin (-1), Val.fin 4, Val.fin (-1)] := nanmean_cohorts.trans nanmean_spec

/-- the cohort structure is irrelevant (also `sort = false`, another `split_every`) -/
theorem nanmean_cohorts_irrelevant :
    runKnown (mkCall Rnanmean .npg 4 2) (.cohorts cs8a) true [2, 1, 3, 2] (codeKeys codes8) vals8
      = runKnown { mkCall Rnanmean .npg 4 5 with sort := false } (.cohorts cs8b) true [2, 1, 3, 2] (codeKeys codes8)
          vals8 :=
  cohorts_structure_irrelevant Rnanmean (.mean true) (mkCall Rnanmean .npg 4 2)
    { mkCall Rnanmean .npg 4 5 with sort := false } 4 true [2, 1, 3, 2] [2, 1, 3, 2] codes8 vals8 cs8a cs8b
    rfl rfl rfl rfl rfl rfl Rnanmean_shape rfl cs8a_sound cs8b_sound
    (fun _ _ _ _ => Rnanmean_absent _) (fun _ _ _ _ => Rnanmean_absent _) Rnanmean_minmax
    (cohortFill_of_fill rfl (by decide)) (cohortFill_of_fill rfl (by decide)) rfl rfl
    (useGroupedCombine_float _ rfl rfl) (useGroupedCombine_float _ rfl rfl)

example : runKnown (mkCall Rnanmean .npg 4 2) (.cohorts cs8a) true [2, 1, 3, 2] (codeKeys codes8) vals8
    = runKnown { mkCall Rnanmean .npg 4 5 with sort := false } (.cohorts cs8b) true [2, 1, 3, 2] (codeKeys codes8)
        vals8 := nanmean_cohorts_irrelevant

example : runKnown { mkCall Rnanmean .npg 4 5 with sort := false } (.cohorts cs8b) true [2, 1, 3, 2] (codeKeys codes8)
    vals8 = .ok [Val.fin (3/2), Val.fin (-1), Val.fin 4, Val.fin (-1)] := by decide +kernel

/-- flox's own engine, `nanmax` -/
example : runKnown (mkCall Rnanmax .flox 4 2) (.cohorts cs8a) true [2, 1, 3, 2] (codeKeys codes8) vals8
    = specResult .nanmax Rnanmax codes8 vals8 4 :=
  cohorts_eq_spec_flox Rnanmax (.simple .nanmax .nanmax Val.ninf) (mkCall Rnanmax .flox 4 2) 4 true [2, 1, 3, 2]
    codes8 vals8 cs8a rfl rfl rfl Rnanmax_shape rfl cs8a_sound
    (fun _ _ _ _ => Or.inl (by decide)) Rnanmax_minmax (cohortFill_of_fill rfl (by decide)) rfl
    (useGroupedCombine_float _ rfl rfl)

/-- the `ValueError` branch: `nanmean`, `min_count=1`, no fill – a cohort raises, and so does the specification -/
example : runKnown (mkCall RnanmeanNoFill .npg 4 2) (.cohorts cs8a) true [2, 1, 3, 2] (codeKeys codes8) vals8
      = .error "ValueError"
    ∧ specResult .nanmean RnanmeanNoFill codes8 vals8 4 = .error "ValueError" := by decide +kernel

/-- `nanmax` without `fill_value`: the aggregation's user fill is NaN, the `fill_value` argument is `None` -/
def cNanmaxNoArg : Call := { mkCall Rnanmax .npg 2 2 with fillArg := none }

/-- the second conjunct of `HCohortFill` is necessary (the first: `C02.H_cohortfill_counterexample`): no cohort has a
    label (no requested label occurs) and there is no fill: the reindex of an empty result does not raise (it fills
    with NaN), the specification demands a fill -/
theorem H_cohortfill_counterexample_empty :
    cohortsSoundB [1] [-1] 1 [] = true
    ∧ runKnown (mkCall Rsum .npg 1 2) (.cohorts []) true [1] (codeKeys [-1]) [Val.fin 1] = .ok [Val.nan]
    ∧ specResult .sum Rsum [-1] [Val.fin 1] 1 = .error "ValueError" := by decide +kernel

def RsumF : Resolved := { Rsum with userFill := some (Val.fin 7) }

/-- `blocks_asc` is necessary: a block listed twice is counted twice -/
theorem blocks_asc_counterexample_dup :
    runKnown (mkCall RsumF .npg 1 2) (.cohorts [([0, 0], [0])]) true [1] (codeKeys [0]) [Val.fin 1] = .ok [Val.fin 2]
    ∧ specResult .sum RsumF [0] [Val.fin 1] 1 = .ok [Val.fin 1] := by decide +kernel

/-- `nanfirst` (NumPy fill NaN), the blueprint of `C06.blocks_asc_counterexample_order` -/
def RnanfirstNaN : Resolved := { Rnanfirst0 with numpyFills := [Val.nan] }

/-- `blocks_cover` is necessary -/
theorem blocks_cover_counterexample :
    runKnown (mkCall RsumF .npg 1 2) (.cohorts [([0], [0])]) true [1, 1] (codeKeys [0, 0]) [Val.fin 1, Val.fin 2]
      = .ok [Val.fin 1]
    ∧ specResult .sum RsumF [0, 0] [Val.fin 1, Val.fin 2] 1 = .ok [Val.fin 3] := by decide +kernel

/-- `covered` is necessary: a present requested label that is in no cohort is treated as absent -/
theorem covered_counterexample :
    runKnown (mkCall RsumF .npg 2 2) (.cohorts [([0], [0])]) true [2] (codeKeys [0, 1]) [Val.fin 1, Val.fin 2]
      = .ok [Val.fin 1, Val.fin 7]
    ∧ specResult .sum RsumF [0, 1] [Val.fin 1, Val.fin 2] 2 = .ok [Val.fin 1, Val.fin 2] := by decide +kernel

/-- `labels_ok` is necessary: a foreign label is an (empty) group of the cohort and is hit by the count mask -/
theorem labels_ok_counterexample :
    runKnown (mkCall RnanmeanNoFill .npg 1 2) (.cohorts [([0], [0, 5])]) true [1] (codeKeys [0]) [Val.fin 1]
      = .error "ValueError"
    ∧ specResult .nanmean RnanmeanNoFill [0] [Val.fin 1] 1 = .ok [Val.fin 1] := by decide +kernel

/-- `blocks_ne` is necessary: the labels of a cohort without blocks vanish from the result and are then filled with
    the `fill_value` argument although they are "in a cohort" -/
theorem blocks_ne_counterexample :
    runKnown cNanmaxNoArg (.cohorts [([0], [0]), ([], [1])]) true [1] (codeKeys [0]) [Val.fin 1] = .error "ValueError"
    ∧ specResult .nanmax Rnanmax [0] [Val.fin 1] 2 = .ok [Val.fin 1, Val.nan] := by decide +kernel

/-- `H_absent` (for cohort labels) is necessary: a cohort label without members and no count mask keeps the
    intermediate fill -/
theorem H_absent_counterexample_cohorts :
    ¬ HAbsent RsumF (members 1 [0] [Val.fin 1])
    ∧ runKnown { mkCall RsumF .npg 2 2 with sort := false } (.cohorts [([0], [0, 1])]) true [1] (codeKeys [0])
        [Val.fin 1] = .ok [Val.fin 1, Val.fin 0]
    ∧ specResult .sum RsumF [0] [Val.fin 1] 2 = .ok [Val.fin 1, Val.fin 7] := by decide +kernel

/-- … whereas with cohorts made of present labels only (what `find_group_cohorts` produces) `H_absent` is free and
    the absent label gets the fill -/
example : runKnown (mkCall RsumF .npg 2 2) (.cohorts [([0], [0])]) true [1] (codeKeys [0]) [Val.fin 1]
    = specResult .sum RsumF [0] [Val.fin 1] 2 :=
  cohorts_eq_spec RsumF (.simple .sum .sum Val.zero) (mkCall RsumF .npg 2 2) 2 true [1] [0] [Val.fin 1] [([0], [0])]
    rfl rfl rfl rfl (by decide +kernel) rfl (cohortsSound_of_check _ _ _ _ (by decide +kernel))
    (by
      intro co hco g hg
      obtain rfl := List.mem_singleton.mp hco
      obtain rfl : g = 0 := Rat.natCast_inj.mp (List.mem_singleton.mp hg)
      exact Or.inr (by decide +kernel))
    (by decide +kernel) (cohortFill_of_fill rfl (by decide)) rfl (useGroupedCombine_float _ rfl rfl)

/-- `chunks.sum = codes.length` is necessary: blocks that do not cover the array drop elements -/
theorem chunks_sum_counterexample_cohorts :
    cohortsSoundB [1] [0, 0] 1 [([0], [0])] = true
    ∧ runKnown (mkCall RsumF .npg 1 2) (.cohorts [([0], [0])]) true [1] (codeKeys [0, 0]) [Val.fin 1, Val.fin 2]
        = .ok [Val.fin 1]
    ∧ specResult .sum RsumF [0, 0] [Val.fin 1, Val.fin 2] 1 = .ok [Val.fin 3] := by decide +kernel

/-- `CodesOK` is not needed for the cohorts plan: groups that belong to no cohort (dropped `-1`, codes out of range)
    are discarded when the blocks are reindexed to the cohort's labels -/
example : runKnown (mkCall RnanmeanNoFill .npg 1 2) (.cohorts [([0], [0])]) true [2] (codeKeys [0, 3])
      [Val.fin 1, Val.nan] = specResult .nanmean RnanmeanNoFill [0, 3] [Val.fin 1, Val.nan] 1 :=
  cohorts_eq_spec RnanmeanNoFill (.mean true) (mkCall RnanmeanNoFill .npg 1 2) 1 true [2] [0, 3]
    [Val.fin 1, Val.nan] [([0], [0])] rfl rfl rfl rfl (by decide +kernel) rfl
    (cohortsSound_of_check _ _ _ _ (by decide +kernel)) (fun _ _ _ _ => Or.inl (by decide)) (by decide +kernel)
    ⟨fun _ _ _ => rfl, by decide +kernel⟩ rfl (useGroupedCombine_float _ rfl rfl)

theorem H_minmax_counterexample_cohorts :
    runKnown (mkCall Rnanmax0 .npg 1 2) (.cohorts [([0], [0])]) true [1] (codeKeys [0]) [Val.nan] = .ok [Val.ninf]
    ∧ specResult .nanmax Rnanmax0 [0] [Val.nan] 1 = .ok [Val.nan] := by decide +kernel

end E2E
end Flox
