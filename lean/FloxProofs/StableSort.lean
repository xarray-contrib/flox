/-
  The stable sort of flox's engine (`ssort` = model of `argsort(kind="stable")`), `prepare`
  (`_prepare_for_flox`) and the run decomposition `segments` (model of `flag/uniques/inv_idx` + reduceat
  segments).

  * `ssort`, and `prepare` with or without its shortcut, are the insertion sort by key of
    `FloxProofs.InsertionSort`: key-sorted, a permutation of the input, and *stable*: for every key `g`
    the sub-list of entries with key `g` is the same as in the input (same elements, same order).
  * `segments` cuts a list into its runs; for a key-sorted list the run with key `g` is exactly the (ordered)
    sub-list of values with key `g`.
-/
import FloxModel.EngineFlox
import FloxProofs.Members
import FloxProofs.InsertionSort

namespace Flox
namespace EngineFlox

abbrev KeySorted (l : List (Int × Val)) : Prop := List.Pairwise (fun a b => a.1 ≤ b.1) l

abbrev keyLe (a b : Int × Val) : Prop := a.1 ≤ b.1

theorem keyLe_preorder : TotalPreorder keyLe := TotalPreorder.int.comap Prod.fst fun _ _ => Iff.rfl

theorem insertByKeyFront_eq (p : Int × Val) : ∀ l, ssort.insertByKeyFront p l = insertBy keyLe p l
  | [] => rfl
  | q :: qs => by rw [ssort.insertByKeyFront, insertBy_cons, insertByKeyFront_eq p qs]

theorem ssort_eq_isort : ∀ l, ssort l = isort keyLe l
  | [] => rfl
  | p :: ps => by rw [ssort, isort, insertByKeyFront_eq, ssort_eq_isort ps]

theorem ssort_filter (l : List (Int × Val)) (g : Int) :
    (ssort l).filter (fun p => p.1 = g) = l.filter (fun p => p.1 = g) := by
  rw [ssort_eq_isort, filter_isort keyLe_preorder]
  apply isort_eq_self
  apply List.pairwise_of_forall_mem_list
  intro a ha b hb
  have ha := (List.mem_filter.mp ha).2
  have hb := (List.mem_filter.mp hb).2
  simp only [decide_eq_true_eq] at ha hb
  exact Int.le_of_eq (ha.trans hb.symm)

theorem isSortedKeys_iff (l : List (Int × Val)) : isSortedKeys l = true ↔ KeySorted l :=
  adjacent_iff_pairwise (le := keyLe) Int.le_trans rfl (fun _ => rfl) (fun _ _ _ => rfl) l

theorem prepare_eq_isort (codes : List Int) (vals : List Val) :
    prepare codes vals = isort keyLe (codes.zip vals) := by
  unfold prepare
  simp only
  split
  · next h => exact (isort_eq_self ((isSortedKeys_iff _).mp h)).symm
  · exact ssort_eq_isort _

theorem prepare_sorted (codes : List Int) (vals : List Val) : KeySorted (prepare codes vals) := by
  rw [prepare_eq_isort]
  exact isort_sorted keyLe_preorder _

theorem prepare_perm (codes : List Int) (vals : List Val) :
    (prepare codes vals).Perm (codes.zip vals) := by
  rw [prepare_eq_isort]
  exact isort_perm _ _

theorem prepare_filter (codes : List Int) (vals : List Val) (g : Int) :
    (prepare codes vals).filter (fun p => p.1 = g) = (codes.zip vals).filter (fun p => p.1 = g) := by
  rw [prepare_eq_isort, ← ssort_eq_isort, ssort_filter]

theorem prepare_eq_of_sorted (codes : List Int) (vals : List Val) (h : KeySorted (codes.zip vals)) :
    prepare codes vals = codes.zip vals := by
  rw [prepare_eq_isort, isort_eq_self h]

theorem prepare_members (g : Int) (codes : List Int) (vals : List Val) :
    ((prepare codes vals).filter (fun p => p.1 = g)).map (fun p => p.2) = members g codes vals := by
  rw [prepare_filter, ← members_eq_filter]

theorem segments_cons (k : Int) (v : Val) (rest : List (Int × Val)) :
    segments ((k, v) :: rest) =
      match segments rest with
      | (k', vs) :: segs => if k = k' then (k, v :: vs) :: segs else (k, [v]) :: (k', vs) :: segs
      | [] => [(k, [v])] := by
  simp only [segments]
  cases segments rest with
  | nil => rfl
  | cons a as => rfl

theorem lookup_cons_ite {β : Type} (g k : Int) (b : β) (es : List (Int × β)) :
    List.lookup g ((k, b) :: es) = if g = k then some b else List.lookup g es := by
  rw [List.lookup_cons]
  by_cases h : g = k
  · simp [h]
  · have hb : (g == k) = false := by simpa using h
    simp [h, hb]

def joinSegs (segs : List (Int × List Val)) : List (Int × Val) :=
  segs.flatMap fun seg => seg.2.map fun v => (seg.1, v)

theorem joinSegs_cons (k : Int) (ms : List Val) (segs : List (Int × List Val)) :
    joinSegs ((k, ms) :: segs) = ms.map (fun v => (k, v)) ++ joinSegs segs := List.flatMap_cons ..

theorem filter_joinSegs_eq_nil {p : Int × Val → Bool} {segs : List (Int × List Val)}
    (h : ∀ seg ∈ segs, ∀ v, p (seg.1, v) = false) : (joinSegs segs).filter p = [] :=
  List.filter_eq_nil_iff.mpr fun x hx => by
    obtain ⟨seg, hs, hv⟩ := List.mem_flatMap.mp hx
    obtain ⟨v, _, rfl⟩ := List.mem_map.mp hv
    simp [h seg hs v]

theorem joinSegs_segments (s : List (Int × Val)) : joinSegs (segments s) = s := by
  fun_induction segments s with
  | case1 => rfl
  | case2 v rest k vs segs hseg ih =>
    rw [hseg, joinSegs_cons] at ih
    simp [joinSegs_cons, ← ih]
  | case3 k v rest k' vs segs hseg _ ih =>
    rw [hseg] at ih
    simp [joinSegs_cons, ← ih]
  | case4 k v rest hseg ih =>
    rw [hseg] at ih
    simp [joinSegs, ← ih]

theorem segments_ne_nil (s : List (Int × Val)) : ∀ seg ∈ segments s, seg.2 ≠ [] := by
  fun_induction segments s with
  | case1 => simp
  | case2 v rest k vs segs hseg ih =>
    rw [hseg] at ih
    intro seg hs
    rcases List.mem_cons.mp hs with rfl | hs
    · exact List.cons_ne_nil _ _
    · exact ih seg (List.mem_cons_of_mem _ hs)
  | case3 k v rest k' vs segs hseg _ ih =>
    rw [hseg] at ih
    intro seg hs
    rcases List.mem_cons.mp hs with rfl | hs
    · exact List.cons_ne_nil _ _
    · exact ih seg hs
  | case4 => simp

theorem segments_keys_lt (s : List (Int × Val)) (hs : KeySorted s) :
    (segments s).Pairwise (fun a b => a.1 < b.1) := by
  fun_induction segments s with
  | case1 => exact .nil
  | case2 v rest k vs segs hseg ih =>
    have ih := ih (List.pairwise_cons.mp hs).2
    rw [hseg] at ih
    exact List.pairwise_cons.mpr (List.pairwise_cons.mp ih)
  | case3 k v rest k' vs segs hseg hne ih =>
    have ⟨hk, hrest⟩ := List.pairwise_cons.mp hs
    have ih := ih hrest
    rw [hseg] at ih
    -- the first run of `rest` is non-empty, so `k'` is the key of an entry of `rest`
    have hmem : ∃ v', (k', v') ∈ rest := by
      have hj := joinSegs_segments rest
      have hvs := segments_ne_nil rest (k', vs) (by rw [hseg]; exact List.mem_cons_self ..)
      rw [hseg, joinSegs_cons] at hj
      cases vs with
      | nil => exact absurd rfl hvs
      | cons v' _ => exact ⟨v', by rw [← hj]; exact List.mem_cons_self ..⟩
    have hlt : k < k' := by
      obtain ⟨v', hv'⟩ := hmem
      have := hk _ hv'
      omega
    refine List.pairwise_cons.mpr ⟨fun a ha => ?_, ih⟩
    rcases List.mem_cons.mp ha with rfl | ha
    · exact hlt
    · exact Int.lt_trans hlt ((List.pairwise_cons.mp ih).1 a ha)
  | case4 => simp

theorem lookup_eq_filter_joinSegs (g : Int) : ∀ segs : List (Int × List Val),
    segs.Pairwise (fun a b => a.1 < b.1) → (∀ seg ∈ segs, seg.2 ≠ []) →
    segs.lookup g =
      if (joinSegs segs).filter (fun p => p.1 = g) = [] then none
      else some (((joinSegs segs).filter (fun p => p.1 = g)).map (fun p => p.2))
  | [], _, _ => rfl
  | (k, ms) :: rest, hlt, hne => by
    have ⟨hk, hrest⟩ := List.pairwise_cons.mp hlt
    rw [lookup_cons_ite, joinSegs_cons, List.filter_append]
    by_cases hg : g = k
    · subst hg
      have h1 : (ms.map fun v => (g, v)).filter (fun p => p.1 = g) = ms.map fun v => (g, v) :=
        List.filter_eq_self.mpr (by simp)
      have h2 : (joinSegs rest).filter (fun p => p.1 = g) = [] :=
        filter_joinSegs_eq_nil fun seg hs v => by
          have := hk seg hs
          simp only [decide_eq_false_iff_not]
          omega
      simp [h1, h2, hne (g, ms) (by simp), Function.comp_def]
    · have h1 : (ms.map fun v => (k, v)).filter (fun p => p.1 = g) = [] :=
        List.filter_eq_nil_iff.mpr fun x hx => by
          obtain ⟨v, _, rfl⟩ := List.mem_map.mp hx
          simpa using fun h => hg h.symm
      rw [if_neg hg, h1, List.nil_append]
      exact lookup_eq_filter_joinSegs g rest hrest fun seg hs => hne seg (List.mem_cons_of_mem _ hs)

theorem segments_lookup (s : List (Int × Val)) (hs : KeySorted s) (g : Int) :
    (segments s).lookup g =
      if s.filter (fun p => p.1 = g) = [] then none
      else some ((s.filter (fun p => p.1 = g)).map (fun p => p.2)) := by
  have h := lookup_eq_filter_joinSegs g (segments s) (segments_keys_lt s hs) (segments_ne_nil s)
  rwa [joinSegs_segments] at h

end EngineFlox
end Flox
