/-
  C10: the in-memory kernels (`aggregate_flox.ffill`, numpy_groupies' `_nancumsum`) equal the specification.
  On a key-sorted list the scan that restarts at every key change (`runScan`) is the specification, and the literal
  kernels (index gymnastics / global cumsum minus group start) are `runScan`; stable sorting, scanning and un-permuting
  is scanning in the original order.
-/
import FloxModel.Scan
import FloxProofs.ScanAlgebra
import FloxProofs.InsertionSort

namespace Flox
namespace Scan

/-- no `±inf` among the values (NaN allowed) -/
def NoInf (l : AA) : Prop := ∀ p ∈ l, p.2 ≠ Val.pinf ∧ p.2 ≠ Val.ninf

abbrev IAA := List (Int × (Nat × Val))

def Sorted {α} (l : List (Int × α)) : Prop := l.Pairwise (fun a b => a.1 ≤ b.1)

/-- scan that restarts whenever the key changes; `pk` = previous key (as in the kernels), `c` = previous output -/
def runScan (f : Func) : Option Int → Val → AA → List Val
  | _, _, [] => []
  | pk, c, (k, v) :: r =>
    let o := step f (if pk = some k then c else init f) v
    o :: runScan f (some k) o r

/-- `hc`: whichever label comes next, what `runScan` continues from is that label's state in `pre`.  This survives a step
    because, the data being sorted, a later label other than the current one is larger than every label seen (`hle`),
    hence new. -/
theorem runScan_eq (f : Func) (l pre : AA) (pk : Option Int) (c : Val) (hs : Sorted l)
    (hle : ∀ m, pk = some m → ∀ b ∈ l, m ≤ b.1)
    (hc : ∀ k ∈ keys l, (if pk = some k then c else init f) = scanLast f (mem k pre)) :
    runScan f pk c l = groupedScanFrom f pre l := by
  induction l generalizing pre pk c with
  | nil => rfl
  | cons p r ih =>
    obtain ⟨k, v⟩ := p
    obtain ⟨hkr, hr⟩ := List.pairwise_cons.mp hs
    simp only [runScan]
    rw [groupedScanFrom_cons, hc k List.mem_cons_self]
    congr 1
    apply ih _ _ _ hr
    · intro m hm b hb
      cases hm
      exact hkr b hb
    · intro k₂ hk₂
      rw [scanLast_mem_snoc]
      by_cases hk : k = k₂
      · subst hk; simp
      · obtain ⟨b, hb, rfl⟩ := List.mem_map.mp hk₂
        have hpk : pk ≠ some b.1 := fun h => by
          have h1 := hle _ h (k, v) List.mem_cons_self
          have h2 := hkr b hb
          simp only at h1 h2; omega
        rw [if_neg (fun h => hk (Option.some.inj h)), if_neg hk,
          ← hc b.1 (List.mem_cons_of_mem _ hk₂), if_neg hpk]

theorem runScan_sorted (f : Func) (l : AA) (hs : Sorted l) : runScan f none (init f) l = groupedScanFrom f [] l :=
  runScan_eq f l [] none (init f) hs (fun _ h => nomatch h) (fun _ _ => by simp)

theorem getD_vals_append_mid (pre r : AA) (k : Int) (v : Val) :
    (vals (pre ++ (k, v) :: r)).getD pre.length Val.nan = v := by
  simp [vals, List.getD_eq_getElem?_getD]

theorem nan_of_isNaN {v : Val} (h : v.isNaN = true) : v = Val.nan := (Val.isNaN_iff v).mp h

/-- `cur` is the running maximum of the masked indices; unless no key has been seen yet it points (whatever follows `pre`)
    at the previous output `c` -/
theorem ffillIdx_eq (r pre : AA) (pk : Option Int) (c : Val) (cur : Nat) (hcur : cur ≤ pre.length)
    (hc : pk ≠ none → ∀ r', (vals (pre ++ r')).getD cur Val.nan = c) :
    (ffillIdx pk pre.length cur r).map (fun a => (vals (pre ++ r)).getD a Val.nan) = runScan .ffill pk c r := by
  induction r generalizing pre pk c cur with
  | nil => rfl
  | cons p r ih =>
    obtain ⟨k, v⟩ := p
    simp only [ffillIdx, runScan, List.map_cons]
    by_cases hmask : (v.isNaN && (pk == some k)) = true
    · -- masked: the index stays, and the fill keeps the previous output
      obtain ⟨hv, hk⟩ : v.isNaN = true ∧ pk = some k := by simpa using hmask
      subst hk
      have hstep : step .ffill c v = c := by simp [step, hv]
      simp only [hmask, if_true, Nat.max_zero, hc (by simp), hstep]
      congr 1
      have := ih (pre ++ [(k, v)]) (some k) c cur (by simp only [List.length_append]; omega)
        (fun _ r' => by rw [List.append_assoc]; exact hc (by simp) _)
      simpa using this
    · -- not masked: the index moves here, and the output is the element itself (NaN at a group start included)
      have hstep : step .ffill (if pk = some k then c else init .ffill) v = v := by
        by_cases hv : v.isNaN = true
        · have hk : ¬ pk = some k := by simpa [hv] using hmask
          rw [if_neg hk, nan_of_isNaN hv]; rfl
        · simp [step, hv]
      simp only [hmask, Bool.false_eq_true, if_false, Nat.max_eq_right hcur, getD_vals_append_mid, hstep]
      congr 1
      have := ih (pre ++ [(k, v)]) (some k) v pre.length (by simp)
        (fun _ r' => by rw [List.append_assoc]; exact getD_vals_append_mid pre r' k v)
      simpa using this

theorem ffillSorted_eq (s : AA) : ffillSorted s = runScan .ffill none (init .ffill) s :=
  ffillIdx_eq s [] none (init .ffill) 0 (Nat.le_refl _) (fun h => absurd rfl h)

def AllFin (s : AA) : Prop := ∀ p ∈ s, ∃ q, p.2 = Val.fin q

/-- with finite data only, `c - c[group start] + a[group start]` is the group's running total `G` -/
theorem cumsumSorted_eq (r : AA) (hr : AllFin r) (pk : Option Int) (C CS A G : Rat) (hG : G = C - CS + A) :
    cumsumSorted pk (Val.fin C) (Val.fin CS) (Val.fin A) r = runScan .nancumsum pk (Val.fin G) r := by
  induction r generalizing pk C CS A G with
  | nil => rfl
  | cons p r ih =>
    obtain ⟨k, v⟩ := p
    obtain ⟨x, hx⟩ := hr (k, v) List.mem_cons_self
    simp only at hx
    subst hx
    have hr' : AllFin r := fun p hp => hr p (List.mem_cons_of_mem _ hp)
    simp only [cumsumSorted, runScan]
    by_cases hk : pk = some k
    · -- same group: the running total becomes `G + x`
      subst hk
      simp only [beq_self_eq_true, if_true]
      exact List.cons_eq_cons.mpr ⟨congrArg Val.fin (by grind), ih hr' (some k) (C + x) CS A (G + x) (by grind)⟩
    · -- group start: `c - c + a` is the element itself
      have hb : (pk == some k) = false := by simpa using hk
      simp only [hb, Bool.false_eq_true, if_false, if_neg hk]
      exact List.cons_eq_cons.mpr
        ⟨congrArg Val.fin (by grind), ih hr' (some k) (C + x) (C + x) x (0 + x) (by grind)⟩

/-- every element of the indexed list paired with what the specification gives at its place -/
def ann (f : Func) (pre : AA) (s : IAA) : List (Nat × Val) := (idxs s).zip (groupedScanFrom f pre (dropIdx s))

theorem dropIdx_append (a b : IAA) : dropIdx (a ++ b) = dropIdx a ++ dropIdx b := by simp [dropIdx]

theorem keys_dropIdx (s : IAA) : keys (dropIdx s) = keys s := by simp [keys, dropIdx]

theorem ann_cons (f : Func) (pre : AA) (e : Int × (Nat × Val)) (s : IAA) :
    ann f pre (e :: s) =
      (e.2.1, step f (scanLast f (mem e.1 pre)) e.2.2) :: ann f (pre ++ [(e.1, e.2.2)]) s := by
  simp [ann, idxs, dropIdx, groupedScanFrom_cons]

theorem ann_append (f : Func) (pre : AA) (a b : IAA) :
    ann f pre (a ++ b) = ann f pre a ++ ann f (pre ++ dropIdx a) b := by
  induction a generalizing pre with
  | nil => simp [ann, idxs, dropIdx]
  | cons e r ih => rw [List.cons_append, ann_cons, ann_cons, ih]; simp [dropIdx]

/-- an element may be moved behind a stretch that does not hold its label (no cross-group flow) -/
theorem ann_move (f : Func) (pre : AA) (e : Int × (Nat × Val)) (s : IAA) (h : e.1 ∉ keys s) :
    (ann f pre (e :: s)).Perm (ann f pre (s ++ [e])) := by
  have hk : e.1 ∉ keys (dropIdx s) := by rwa [keys_dropIdx]
  have hsame : ann f (pre ++ [(e.1, e.2.2)]) s = ann f pre s := by
    unfold ann
    congr 1
    apply groupedScanFrom_congr_on
    intro g hg
    have hne : e.1 ≠ g := by rintro rfl; exact hk hg
    rw [scanLast_mem_snoc, if_neg hne]
  rw [ann_append, ann_cons, ann_cons, hsame, mem_append, mem_eq_nil_of_not_mem_keys _ _ hk, List.append_nil]
  exact (List.perm_append_singleton _ _).symm

theorem mem_move (g : Int) (e : Int × (Nat × Val)) (s : IAA) (h : e.1 ∉ keys s) :
    mem g (dropIdx (e :: s)) = mem g (dropIdx (s ++ [e])) := by
  have hk : e.1 ∉ keys (dropIdx s) := by rwa [keys_dropIdx]
  have hcons : dropIdx (e :: s) = [(e.1, e.2.2)] ++ dropIdx s := rfl
  have hsing : dropIdx [e] = [(e.1, e.2.2)] := rfl
  rw [hcons, dropIdx_append, hsing, mem_append, mem_append, mem_singleton]
  by_cases he : e.1 = g
  · subst he; rw [mem_eq_nil_of_not_mem_keys _ _ hk]; simp
  · simp [he]

theorem insertBack_perm {α} (e : Int × α) (S : List (Int × α)) : (insertBack e S).Perm (e :: S) := by
  induction S with
  | nil => exact List.Perm.refl _
  | cons q qs ih =>
    rw [insertBack]
    split
    · exact (List.Perm.cons q ih).trans (List.Perm.swap e q qs)
    · exact List.Perm.refl _

theorem insertBack_split {α} (e : Int × α) (S : List (Int × α)) (hS : Sorted S) :
    ∃ S₁ S₂, S = S₁ ++ S₂ ∧ insertBack e S = S₁ ++ e :: S₂ ∧ (∀ x ∈ S₁, x.1 ≤ e.1) ∧ ∀ x ∈ S₂, e.1 < x.1 := by
  induction S with
  | nil => exact ⟨[], [], rfl, rfl, by simp, by simp⟩
  | cons q qs ih =>
    obtain ⟨hq, hqs⟩ := List.pairwise_cons.mp hS
    by_cases hle : q.1 ≤ e.1
    · obtain ⟨S₁, S₂, h1, h2, h3, h4⟩ := ih hqs
      refine ⟨q :: S₁, S₂, by rw [h1]; rfl, by rw [insertBack, if_pos hle, h2]; rfl, ?_, h4⟩
      intro x hx
      rcases List.mem_cons.mp hx with rfl | hx
      · exact hle
      · exact h3 x hx
    · refine ⟨[], q :: qs, rfl, by rw [insertBack, if_neg hle]; rfl, by simp, ?_⟩
      intro x hx
      rcases List.mem_cons.mp hx with rfl | hx
      · omega
      · have := hq x hx; omega

theorem insertBack_sorted {α} (e : Int × α) (S : List (Int × α)) (hS : Sorted S) : Sorted (insertBack e S) := by
  obtain ⟨S₁, S₂, rfl, h2, h3, h4⟩ := insertBack_split e S hS
  obtain ⟨hs1, hs2, h12⟩ := List.pairwise_append.mp hS
  rw [h2]
  refine List.pairwise_append.mpr ⟨hs1, List.pairwise_cons.mpr ⟨fun x hx => Int.le_of_lt (h4 x hx), hs2⟩, ?_⟩
  intro a ha b hb
  rcases List.mem_cons.mp hb with rfl | hb
  · exact h3 a ha
  · exact h12 a ha b hb

theorem not_mem_keys_of_lt {α} (e : Int × α) (S : List (Int × α)) (h : ∀ x ∈ S, e.1 < x.1) : e.1 ∉ keys S := by
  intro hm
  obtain ⟨x, hx, hxe⟩ := List.mem_map.mp hm
  have := h x hx
  omega

theorem mem_insertBack (g : Int) (e : Int × (Nat × Val)) (S : IAA) (hS : Sorted S) :
    mem g (dropIdx (insertBack e S)) = mem g (dropIdx (S ++ [e])) := by
  obtain ⟨S₁, S₂, rfl, h2, _, h4⟩ := insertBack_split e S hS
  rw [h2, List.append_assoc, dropIdx_append, dropIdx_append S₁, mem_append, mem_append,
    mem_move g e S₂ (not_mem_keys_of_lt e S₂ h4)]

theorem ann_insertBack (f : Func) (e : Int × (Nat × Val)) (S : IAA) (hS : Sorted S) :
    (ann f [] (insertBack e S)).Perm (ann f [] (S ++ [e])) := by
  obtain ⟨S₁, S₂, rfl, h2, _, h4⟩ := insertBack_split e S hS
  rw [h2, List.append_assoc, ann_append, ann_append f [] S₁]
  exact List.Perm.append_left _ (ann_move f _ e S₂ (not_mem_keys_of_lt e S₂ h4))

theorem ssortL_snoc {α} (z : List (Int × α)) (e : Int × α) : ssortL (z ++ [e]) = insertBack e (ssortL z) := by
  simp [ssortL, List.foldl_append]

theorem ssortL_spec (f : Func) (z : IAA) :
    Sorted (ssortL z) ∧ (∀ g, mem g (dropIdx (ssortL z)) = mem g (dropIdx z)) ∧
      (ann f [] (ssortL z)).Perm (ann f [] z) := by
  induction z using snoc_induction with
  | hnil => exact ⟨List.Pairwise.nil, fun _ => rfl, List.Perm.refl _⟩
  | hsnoc z e ih =>
    obtain ⟨hs, hst, hp⟩ := ih
    rw [ssortL_snoc]
    refine ⟨insertBack_sorted e _ hs, fun g => ?_, (ann_insertBack f e _ hs).trans ?_⟩
    · rw [mem_insertBack g e _ hs, dropIdx_append, dropIdx_append, mem_append, mem_append, hst g]
    · rw [ann_append, ann_append, ann_cons, ann_cons, List.nil_append, List.nil_append, hst e.1]
      exact List.Perm.append_right _ hp

theorem lookup_of_mem (pairs : List (Nat × Val)) (hn : (pairs.map (·.1)).Nodup) (i : Nat) (v : Val)
    (h : (i, v) ∈ pairs) : pairs.lookup i = some v := by
  obtain ⟨l₁, l₂, rfl⟩ := List.append_of_mem h
  rw [List.map_append, List.nodup_append] at hn
  refine List.lookup_eq_some_iff.mpr ⟨l₁, l₂, rfl, fun p hp => ?_⟩
  have := hn.2.2 p.1 (List.mem_map.mpr ⟨p, hp, rfl⟩) i (by simp)
  simpa using Ne.symm this

theorem idxs_withIdx (l : AA) : idxs (withIdx l) = List.range l.length := by
  have : idxs (withIdx l) = l.zipIdx.map (fun x => x.2) := by simp [idxs, withIdx, Function.comp_def]
  rw [this, List.zipIdx_eq_zip_range', List.range_eq_range']
  exact List.map_snd_zip (by simp)

theorem dropIdx_withIdx (l : AA) : dropIdx (withIdx l) = l := by
  simp [dropIdx, withIdx, Function.comp_def]

theorem unperm_of_perm (n : Nat) (xs : List Val) (hx : xs.length = n) (pairs : List (Nat × Val))
    (hp : pairs.Perm ((List.range n).zip xs)) : unperm n pairs = xs := by
  have hnd : (pairs.map (·.1)).Nodup := by
    rw [(hp.map (·.1)).nodup_iff, List.map_fst_zip (by simp [hx])]
    exact List.nodup_range
  apply List.ext_getElem
  · simp [unperm, hx]
  · intro i h1 h2
    have hi : i < n := by simpa [unperm] using h1
    simp only [unperm, List.getElem_map, List.getElem_range]
    have hmem : (i, xs[i]) ∈ pairs := by
      rw [hp.mem_iff, List.mem_iff_getElem]
      refine ⟨i, by simp [hx, hi], by simp⟩
    rw [lookup_of_mem pairs hnd i _ hmem]; rfl

theorem sorted_dropIdx (s : IAA) (h : Sorted s) : Sorted (dropIdx s) := by
  unfold Sorted dropIdx
  rw [List.pairwise_map]
  exact h

theorem sort_scan_unperm (f : Func) (l : AA) (s : IAA) (hs : Sorted s)
    (hperm : (ann f [] s).Perm (ann f [] (withIdx l))) :
    unperm l.length ((idxs s).zip (runScan f none (init f) (dropIdx s))) = groupedScan f l := by
  rw [runScan_sorted f _ (sorted_dropIdx s hs)]
  apply unperm_of_perm _ _ (groupedScanFrom_length f [] l)
  simpa [ann, idxs_withIdx, dropIdx_withIdx] using hperm

theorem isSortedKeys_sorted {α} (l : List (Int × α)) (h : isSortedKeys l = true) : Sorted l :=
  (adjacent_iff_pairwise (le := fun a b : Int × α => a.1 ≤ b.1) Int.le_trans rfl (fun _ => rfl) (fun _ _ _ => rfl) l).mp h

theorem ffillEngine_eq_groupedScan (l : AA) : ffillEngine l = groupedScan .ffill l := by
  unfold ffillEngine
  simp only
  split
  · next hs =>
    rw [ffillSorted_eq]
    exact sort_scan_unperm .ffill l _ (isSortedKeys_sorted _ hs) (List.Perm.refl _)
  · obtain ⟨hs, _, hperm⟩ := ssortL_spec .ffill (withIdx l)
    rw [ffillSorted_eq]
    exact sort_scan_unperm .ffill l _ hs hperm

theorem step_nanToZero (c v : Val) :
    step .nancumsum c (if v.isNaN then Val.zero else v) = step .nancumsum c v := by
  cases v <;> rfl

theorem groupedScanFrom_nanToZero (pre' pre l : AA) (h : SEq .nancumsum pre' pre) :
    groupedScanFrom .nancumsum pre' (nanToZero l) = groupedScanFrom .nancumsum pre l := by
  induction l generalizing pre' pre with
  | nil => rfl
  | cons p r ih =>
    have hcons : nanToZero (p :: r) = (p.1, if p.2.isNaN then Val.zero else p.2) :: nanToZero r := rfl
    rw [hcons, groupedScanFrom_cons, groupedScanFrom_cons, h p.1, step_nanToZero]
    congr 1
    apply ih
    intro g
    rw [scanLast_mem_snoc, scanLast_mem_snoc, h g, step_nanToZero]

theorem allFin_nanToZero (l : AA) (h : NoInf l) : AllFin (nanToZero l) := by
  intro p hp
  obtain ⟨q, hq, rfl⟩ := List.mem_map.mp hp
  have hq' := h q hq
  cases hv : q.2 with
  | nan => exact ⟨0, by simp [Val.zero]⟩
  | pinf => exact absurd hv hq'.1
  | ninf => exact absurd hv hq'.2
  | fin a => exact ⟨a, by simp⟩

theorem npgNancumsum_eq_groupedScan (l : AA) (h : NoInf l) : npgNancumsum l = groupedScan .nancumsum l := by
  unfold npgNancumsum
  simp only
  obtain ⟨hs, hst, hperm⟩ := ssortL_spec .nancumsum (withIdx (nanToZero l))
  have hfin : AllFin (dropIdx (ssortL (withIdx (nanToZero l)))) := by
    intro p hp
    apply allFin_nanToZero l h
    rwa [← mem_mem_iff, hst, dropIdx_withIdx, mem_mem_iff] at hp
  have hlen : l.length = (nanToZero l).length := by simp [nanToZero]
  rw [hlen, show cumsumSorted none Val.zero Val.zero Val.zero _ = _ from
    cumsumSorted_eq _ hfin none 0 0 0 0 (by grind)]
  exact (sort_scan_unperm .nancumsum (nanToZero l) _ hs hperm).trans
    (groupedScanFrom_nanToZero [] [] l (SEq.refl _ _))

end Scan
end Flox
