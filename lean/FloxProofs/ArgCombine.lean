/-
  Arg-reductions through `_grouped_combine` (the isArg branch: concatenation in block order, `chunk_argreduce` with the
  combine kernels on (values, indices), the `avoid` shortcut when the concatenated length is 1, the count column summed
  separately).  One combine of the arg-sparse nodes of segments is the arg-sparse node of the concatenated segment
  (`mergeA`); hence, for every chunking and every `split_every`, the combined intermediate is the arg-sparse node of the
  whole array with the global indices `0 … N-1`.
-/
import FloxProofs.ArgEngine
import FloxProofs.Grouped

namespace Flox.Grp

def catAK (segs : List ASeg) : List Key := (segs.map (·.keys)).flatten
def catAV (segs : List ASeg) : List Val := (segs.map (·.vals)).flatten
def catAI (segs : List ASeg) : List Val := (segs.map (·.idxs)).flatten

abbrev AlignedA (segs : List ASeg) : Prop := ∀ p ∈ segs, p.Aligned

@[simp] theorem catAK_nil : catAK [] = [] := rfl
@[simp] theorem catAV_nil : catAV [] = [] := rfl
@[simp] theorem catAI_nil : catAI [] = [] := rfl
@[simp] theorem catAK_cons (p : ASeg) (segs : List ASeg) : catAK (p :: segs) = p.keys ++ catAK segs := by simp [catAK]
@[simp] theorem catAV_cons (p : ASeg) (segs : List ASeg) : catAV (p :: segs) = p.vals ++ catAV segs := by simp [catAV]
@[simp] theorem catAI_cons (p : ASeg) (segs : List ASeg) : catAI (p :: segs) = p.idxs ++ catAI segs := by simp [catAI]

theorem AlignedA.tail {p : ASeg} {segs : List ASeg} (h : AlignedA (p :: segs)) : AlignedA segs :=
  fun q hq => h q (by simp [hq])

theorem catA_aligned (segs : List ASeg) (h : AlignedA segs) (j : Val) :
    (⟨catAK segs, catAV segs, catAI segs, j⟩ : ASeg).Aligned := by
  induction segs with
  | nil => exact ⟨rfl, rfl⟩
  | cons p segs ih =>
    have := ih h.tail
    have hp := h p (by simp)
    constructor
    · simp only [catAK_cons, catAV_cons, List.length_append, hp.1, this.1]
    · simp only [catAK_cons, catAI_cons, List.length_append, hp.2, this.2]

theorem membersK_catA (κ : Key) (segs : List ASeg) (h : AlignedA segs) :
    membersK κ (catAK segs) (catAV segs) = (segs.map fun p => membersK κ p.keys p.vals).flatten := by
  induction segs with
  | nil => simp
  | cons p segs ih =>
    simp only [catAK_cons, catAV_cons, List.map_cons, List.flatten_cons]
    rw [membersK_append κ _ _ _ _ (h p (by simp)).1, ih h.tail]

theorem pairs_catA (κ : Key) (segs : List ASeg) (h : AlignedA segs) (j : Val) :
    (⟨catAK segs, catAV segs, catAI segs, j⟩ : ASeg).pairs κ = (segs.map fun p => p.pairs κ).flatten := by
  induction segs with
  | nil => simp [ASeg.pairs]
  | cons p segs ih =>
    have hp := h p (by simp)
    have ih' := ih h.tail
    simp only [ASeg.pairs] at ih' ⊢
    simp only [catAK_cons, catAV_cons, catAI_cons, List.map_cons, List.flatten_cons]
    rw [membersK_append κ _ _ _ _ hp.1, membersK_append κ _ _ _ _ hp.2, List.zip_append, ih']
    rw [membersK_length κ _ _ (Nat.le_of_eq hp.1),
      membersK_length κ _ _ (Nat.le_of_eq hp.2)]

theorem mem_catAK {κ : Key} {segs : List ASeg} : κ ∈ catAK segs ↔ ∃ p ∈ segs, κ ∈ p.keys := by
  rw [catAK, ← List.flatMap_def]; exact List.mem_flatMap

/-- `R` is the resolved blueprint of the arg-reduction `k` on float data, as `_initialize_aggregation` produces it
    since flox commit 41daa06 (rows `argmax` / `argmin` / `nanargmax` / `nanargmin` × `f8` / `f4` of the generated table);
    with `min_count > 0` the count column (`nanlen` / `sum` / fill 0) is appended -/
structure ArgFits (k : Kernel) (R : Resolved) : Prop where
  hk : isArgKernel k = true
  isArg : R.isArg = true
  chunk : R.chunk = [argChunkVal k, k] ++ cntSuffix R Kernel.nanlen
  combine : R.combine = [argChunkVal k, k] ++ cntSuffix R Kernel.sum
  interFills : R.interFills = [argFillN k, Val.zero] ++ cntSuffix R Val.zero
  fin : R.finalize = "second"

instance (k : Kernel) (R : Resolved) : Decidable (ArgFits k R) :=
  decidable_of_iff (isArgKernel k = true ∧ R.isArg = true ∧ R.chunk = [argChunkVal k, k] ++ cntSuffix R Kernel.nanlen
      ∧ R.combine = [argChunkVal k, k] ++ cntSuffix R Kernel.sum
      ∧ R.interFills = [argFillN k, Val.zero] ++ cntSuffix R Val.zero ∧ R.finalize = "second")
    ⟨fun ⟨a, b, c, d, e, f⟩ => ⟨a, b, c, d, e, f⟩, fun ⟨a, b, c, d, e, f⟩ => ⟨a, b, c, d, e, f⟩⟩

abbrev aNode (k : Kernel) (R : Resolved) (sort : Bool) : ASeg → Inter :=
  argNode k (decide (R.minCount > 0)) sort

theorem aNode_of_pos {R : Resolved} (hm : R.minCount > 0) (k : Kernel) (sort : Bool) :
    aNode k R sort = argNode k true sort := by
  simp only [aNode, hm, decide_true]

theorem aNode_of_not_pos {R : Resolved} (hm : ¬ R.minCount > 0) (k : Kernel) (sort : Bool) :
    aNode k R sort = argNode k false sort := by
  simp only [aNode, hm, decide_false]

/-- the segment a group of segments is combined into; only its `junk` index is not a plain concatenation: it is
    whatever `_grouped_combine` stores for a label without valid member (never used for a label that has one) -/
def mergeA (k : Kernel) (R : Resolved) (sort : Bool) (segs : List ASeg) : ASeg :=
  { keys := catAK segs, vals := catAV segs, idxs := catAI segs,
    junk := if ((segs.map (aNode k R sort)).flatMap (colAt · 0)).length = 1 then (segs.headD default).junk
            else ((segs.map (aNode k R sort)).flatMap (colAt · 1)).getD 0 Val.nan }

theorem groupedCombine_arg_nocnt {k : Kernel} {R : Resolved} (hf : ArgFits k R) (hm : ¬ R.minCount > 0) (sort : Bool)
    (xs : List Inter) :
    groupedCombine R .npg sort xs
      = if (xs.flatMap (colAt · 0)).length = 1 then
          { groups := xs.flatMap (·.groups), cols := [xs.flatMap (colAt · 0), xs.flatMap (colAt · 1)] }
        else chunkArgreduce .npg [argChunkVal k, k] [argFillN k, Val.zero] (xs.flatMap (·.groups))
          (xs.flatMap (colAt · 0)) (xs.flatMap (colAt · 1)) sort := by
  have hkn : k ≠ Kernel.nanlen := fun e => by have := hf.hk; subst e; simp [isArgKernel] at this
  unfold groupedCombine
  simp only [hf.isArg, hf.chunk, hf.combine, hf.interFills, cntSuffix, hm, if_true, if_false, List.append_nil]
  have : ¬ ([argChunkVal k, k].getLast? = some Kernel.nanlen) := by simp [hkn]
  simp only [this, if_false]

theorem groupedCombine_arg_cnt {k : Kernel} {R : Resolved} (hf : ArgFits k R) (hm : R.minCount > 0) (sort : Bool)
    (xs : List Inter) :
    groupedCombine R .npg sort xs
      = if (xs.flatMap (colAt · 0)).length = 1 then
          { groups := xs.flatMap (·.groups),
            cols := [xs.flatMap (colAt · 0), xs.flatMap (colAt · 1)] ++ [xs.flatMap (colAt · 2)] }
        else
          { groups := (chunkArgreduce .npg [argChunkVal k, k] [argFillN k, Val.zero] (xs.flatMap (·.groups))
                (xs.flatMap (colAt · 0)) (xs.flatMap (colAt · 1)) sort).groups,
            cols := (chunkArgreduce .npg [argChunkVal k, k] [argFillN k, Val.zero] (xs.flatMap (·.groups))
                (xs.flatMap (colAt · 0)) (xs.flatMap (colAt · 1)) sort).cols
              ++ [colAt (chunkReduce .npg [Kernel.sum] [Val.zero] (xs.flatMap (·.groups)) (xs.flatMap (colAt · 2))
                    none sort) 0] } := by
  unfold groupedCombine
  simp only [hf.isArg, hf.chunk, hf.combine, hf.interFills, cntSuffix, hm, if_true]
  have : ([argChunkVal k, k] ++ [Kernel.nanlen]).getLast? = some Kernel.nanlen := by simp
  simp only [this, if_true]
  have h1 : ([argChunkVal k, k] ++ [Kernel.sum]).dropLast = [argChunkVal k, k] := by simp
  have h2 : ([argFillN k, Val.zero] ++ [Val.zero]).dropLast = [argFillN k, Val.zero] := by simp
  simp only [h1, h2]
  split <;> rfl

section Combine

variable {k : Kernel} {R : Resolved}

theorem foundOf_aNodes (k : Kernel) (R : Resolved) (sort : Bool) (segs : List ASeg) :
    foundOf sort ((segs.map (aNode k R sort)).flatMap (·.groups)) = foundOf sort (catAK segs) := by
  have h := foundOf_nodes sort (segs.map fun p => (p.keys, p.vals))
    ((segs.map (aNode k R sort)).flatMap (·.groups))
    (by rw [presentKeys_nodes sort (fun p : ASeg => p.keys) segs (aNode k R sort)
          fun p _ => presentKeys_nodeGroups sort p.keys, List.flatMap_map])
  rw [h]
  congr 1
  simp [catKK, catAK, List.map_map, Function.comp_def]

theorem mem_foundOf_catAK {sort : Bool} {r : Rat} {segs : List ASeg} :
    r ∈ foundOf sort (catAK segs) ↔ ∃ p ∈ segs, r ∈ foundOf sort p.keys := by
  rw [mem_foundOf, mem_catAK]
  constructor
  · rintro ⟨p, hp, h⟩; exact ⟨p, hp, (mem_foundOf sort r p.keys).mpr h⟩
  · rintro ⟨p, hp, h⟩; exact ⟨p, hp, (mem_foundOf sort r p.keys).mp h⟩

theorem pairs_aNodes (k : Kernel) (R : Resolved) (sort : Bool) (segs : List ASeg) (r : Rat) (j : Val) :
    (⟨(segs.map (aNode k R sort)).flatMap (·.groups), (segs.map (aNode k R sort)).flatMap (colAt · 0),
        (segs.map (aNode k R sort)).flatMap (colAt · 1), j⟩ : ASeg).pairs (some r)
      = (segs.filter fun p => decide (r ∈ foundOf sort p.keys)).map
          fun p => blockPairN k p.junk (p.pairs (some r)) := by
  unfold ASeg.pairs
  simp only
  rw [membersK_nodes sort (·.keys) (aNode k R sort) 0 (argFillN k)
      (fun p r => (blockPairN k p.junk (p.pairs (some r))).1) segs r (fun _ => rfl) (fun _ => rfl),
    membersK_nodes sort (·.keys) (aNode k R sort) 1 Val.zero
      (fun p r => (blockPairN k p.junk (p.pairs (some r))).2) segs r (fun _ => rfl) (fun _ => rfl),
    List.zip_map']
  rfl

theorem slot_pair (hk : isArgKernel k = true) (R : Resolved) (sort : Bool) (segs : List ASeg) (hal : AlignedA segs)
    (r : Rat) (hr : r ∈ foundOf sort (catAK segs)) (j j' j'' : Val) :
    blockPairN k j ((⟨(segs.map (aNode k R sort)).flatMap (·.groups), (segs.map (aNode k R sort)).flatMap (colAt · 0),
        (segs.map (aNode k R sort)).flatMap (colAt · 1), j'⟩ : ASeg).pairs (some r))
      = blockPairN k j ((⟨catAK segs, catAV segs, catAI segs, j''⟩ : ASeg).pairs (some r)) := by
  rw [pairs_aNodes, pairs_catA _ _ hal]
  rw [pairLawN_indexed (β := ASeg) k hk _ (fun p => p.pairs (some r)) (fun p => p.junk) j]
  · congr 1
    apply flatten_map_filter segs _ (fun p => p.pairs (some r))
    intro p _ hq
    apply ASeg.pairs_eq_nil
    intro hmem
    have : r ∈ foundOf sort p.keys := (mem_foundOf sort r p.keys).mpr hmem
    simp [this] at hq
  · obtain ⟨p, hp, hrp⟩ := mem_foundOf_catAK.mp hr
    have : p ∈ segs.filter fun p => decide (r ∈ foundOf sort p.keys) := by
      simp only [List.mem_filter, decide_eq_true_eq]; exact ⟨hp, hrp⟩
    intro h; rw [h] at this; simp at this
  · intro p hp
    simp only [List.mem_filter, decide_eq_true_eq] at hp
    exact p.pairs_ne_nil (hal p hp.1) _ ((mem_foundOf sort r p.keys).mp hp.2)

theorem slot_count (k : Kernel) (R : Resolved) (hm : R.minCount > 0) (sort : Bool) (segs : List ASeg)
    (hal : AlignedA segs) (r : Rat) (hr : r ∈ foundOf sort (catAK segs)) :
    blockVal .sum Val.zero (membersK (some r) ((segs.map (aNode k R sort)).flatMap (·.groups))
        ((segs.map (aNode k R sort)).flatMap (colAt · 2)))
      = countVal (membersK (some r) (catAK segs) (catAV segs)) := by
  rw [membersK_catA _ segs hal]
  exact combine_slot sort (·.keys) (·.vals) (aNode k R sort) 2
    (GLaw_floatColumns .nanlen .sum Val.zero (by simp [floatColumns])) segs (fun p hp => (hal p hp).1)
    (fun _ _ _ _ => trivial) (fun _ => rfl) (fun p => by rw [aNode_of_pos hm]; rfl)
    r (mem_catAK.mp ((mem_foundOf sort r _).mp hr))

theorem nodeGroups_aNodes (k : Kernel) (R : Resolved) (sort : Bool) (segs : List ASeg) :
    nodeGroups sort ((segs.map (aNode k R sort)).flatMap (·.groups)) = nodeGroups sort (catAK segs) :=
  foundCol_congr sort (foundOf_aNodes k R sort segs) [none] some some fun _ _ => rfl

theorem nodeCol_aNodes (k : Kernel) (R : Resolved) (sort : Bool) (segs : List ASeg) (d : Val) (slot slot' : Rat → Val)
    (h : ∀ r ∈ foundOf sort (catAK segs), slot r = slot' r) :
    nodeCol sort ((segs.map (aNode k R sort)).flatMap (·.groups)) d slot = nodeCol sort (catAK segs) d slot' :=
  foundCol_congr sort (foundOf_aNodes k R sort segs) [d] slot slot' h

theorem argNode_raw_eq (hk : isArgKernel k = true) (R : Resolved) (sort : Bool) (segs : List ASeg)
    (hal : AlignedA segs) (j : Val) :
    argNode k false sort ⟨(segs.map (aNode k R sort)).flatMap (·.groups),
        (segs.map (aNode k R sort)).flatMap (colAt · 0), (segs.map (aNode k R sort)).flatMap (colAt · 1), j⟩
      = argNode k false sort ⟨catAK segs, catAV segs, catAI segs, j⟩ := by
  unfold argNode
  simp only [nodeGroups_aNodes, Bool.false_eq_true, if_false]
  rw [nodeCol_aNodes k R sort segs _ _ _ (fun r hr => congrArg Prod.fst (slot_pair hk R sort segs hal r hr j j j)),
    nodeCol_aNodes k R sort segs _ _ _ (fun r hr => congrArg Prod.snd (slot_pair hk R sort segs hal r hr j j j))]

theorem colAt0_aNode_pos (k : Kernel) (R : Resolved) (sort : Bool) (p : ASeg) :
    0 < (colAt (aNode k R sort p) 0).length := by
  show 0 < (nodeCol sort p.keys _ _).length
  rw [nodeCol_length]
  exact List.length_pos_iff.mpr (nodeGroups_ne_nil sort p.keys)

/-- the `avoid` shortcut of `_grouped_combine` is taken only for a single node with a single group -/
theorem avoid_singleton (k : Kernel) (R : Resolved) (sort : Bool) (segs : List ASeg) (hne : segs ≠ [])
    (havoid : ((segs.map (aNode k R sort)).flatMap (colAt · 0)).length = 1) : ∃ p, segs = [p] := by
  match segs, hne with
  | [p], _ => exact ⟨p, rfl⟩
  | p :: q :: rest, _ =>
    exfalso
    simp only [List.map_cons, List.flatMap_cons, List.length_append] at havoid
    have h1 := colAt0_aNode_pos k R sort p
    have h2 := colAt0_aNode_pos k R sort q
    omega

theorem chunkArgreduce_aNodes (hk : isArgKernel k = true) (R : Resolved) (sort : Bool) (segs : List ASeg)
    (hal : AlignedA segs) (havoid : ¬ ((segs.map (aNode k R sort)).flatMap (colAt · 0)).length = 1) :
    chunkArgreduce .npg [argChunkVal k, k] [argFillN k, Val.zero]
        ((segs.map (aNode k R sort)).flatMap (·.groups)) ((segs.map (aNode k R sort)).flatMap (colAt · 0))
        ((segs.map (aNode k R sort)).flatMap (colAt · 1)) sort
      = argNode k false sort (mergeA k R sort segs) := by
  rw [mergeA, if_neg havoid, ← argNode_raw_eq hk R sort segs hal]
  exact chunkArgreduce_node k hk false _ _ _ sort
    (nodes_col_length sort (·.keys) (aNode k R sort) 0 (argFillN k)
      (fun p r => (blockPairN k p.junk (p.pairs (some r))).1) segs (fun _ => rfl) (fun _ => rfl))
    (nodes_col_length sort (·.keys) (aNode k R sort) 1 Val.zero
      (fun p r => (blockPairN k p.junk (p.pairs (some r))).2) segs (fun _ => rfl) (fun _ => rfl))

theorem groupedCombine_argNodes (hf : ArgFits k R) (sort : Bool) (segs : List ASeg) (hne : segs ≠ [])
    (hal : AlignedA segs) :
    groupedCombine R .npg sort (segs.map (aNode k R sort)) = aNode k R sort (mergeA k R sort segs) := by
  by_cases havoid : ((segs.map (aNode k R sort)).flatMap (colAt · 0)).length = 1
  · -- a single node, returned as it is
    obtain ⟨p, rfl⟩ := avoid_singleton k R sort segs hne havoid
    have hmerge : mergeA k R sort [p] = p := by rw [mergeA, if_pos havoid]; cases p; simp
    rw [hmerge]
    by_cases hm : R.minCount > 0
    · rw [groupedCombine_arg_cnt hf hm, if_pos havoid]
      simp only [aNode_of_pos hm, List.map_cons, List.map_nil, List.flatMap_cons, List.flatMap_nil, List.append_nil]
      rfl
    · rw [groupedCombine_arg_nocnt hf hm, if_pos havoid]
      simp only [aNode_of_not_pos hm, List.map_cons, List.map_nil, List.flatMap_cons, List.flatMap_nil,
        List.append_nil]
      rfl
  · by_cases hm : R.minCount > 0
    · -- the count column is summed by an ordinary `chunk_reduce`
      rw [groupedCombine_arg_cnt hf hm, if_neg havoid, chunkArgreduce_aNodes hf.hk R sort segs hal havoid,
        chunkReduce_sparse [Kernel.sum] [Val.zero] _ _ sort (by simp [isArgKernel]) (by simp),
        colAt_sparseInter _ _ _ _ _ 0 (by simp) (by simp)]
      simp only [List.getElem_cons_zero]
      show (⟨_, _ ++ [nodeCol sort _ Val.zero _]⟩ : Inter) = _
      rw [nodeCol_aNodes k R sort segs _ _ _ (fun r hr => slot_count k R hm sort segs hal r hr), aNode_of_pos hm]
      rfl
    · rw [groupedCombine_arg_nocnt hf hm, if_neg havoid, chunkArgreduce_aNodes hf.hk R sort segs hal havoid,
        aNode_of_not_pos hm]

end Combine

/-- `j` is the junk index of the combined node: what `_grouped_combine` has stored for a label none of whose members the
    kernel selects.  It depends on the shape of the tree (`mergeA`), and no label with a selectable member reads it. -/
theorem tree_argNodes {k : Kernel} {R : Resolved} (hf : ArgFits k R) (sort : Bool) (se : Nat) (segs : List ASeg)
    (hne : segs ≠ []) (hal : AlignedA segs) :
    ∃ j : Val, groupedCombine R .npg sort (treeReduce (groupedCombine R .npg sort) se (segs.map (aNode k R sort)))
      = aNode k R sort ⟨catAK segs, catAV segs, catAI segs, j⟩ := by
  -- the pieces are (keys, values, indices); the junk index of a node is not a function of them
  have key := treeReduce_inv
    (Rel := fun x (d : List Key × List Val × List Val) =>
      ∃ j, (⟨d.1, d.2.1, d.2.2, j⟩ : ASeg).Aligned ∧ x = aNode k R sort ⟨d.1, d.2.1, d.2.2, j⟩)
    (cat := fun ds => ((ds.map (·.1)).flatten, (ds.map (·.2.1)).flatten, (ds.map (·.2.2)).flatten))
    (comb := groupedCombine R .npg sort)
    (by
      intro L
      simp only [List.map_map, Function.comp_def, List.map_flatten, List.flatten_flatten])
    (by
      intro ps hps hrel
      obtain ⟨f, hf'⟩ := exists_fun_of_forall_mem (fun p hp => hrel p hp)
      obtain ⟨grp, hgrp⟩ : ∃ grp : List ASeg, grp = ps.map fun p => ⟨p.2.1, p.2.2.1, p.2.2.2, f p⟩ :=
        ⟨_, rfl⟩
      have hnodes : ps.map (·.1) = grp.map (aNode k R sort) := by
        rw [hgrp, List.map_map]
        exact List.map_congr_left fun p hp => (hf' p hp).2
      have hal' : AlignedA grp := by
        intro s hs
        rw [hgrp] at hs
        obtain ⟨p, hp, rfl⟩ := List.mem_map.mp hs
        exact (hf' p hp).1
      have hcat : ((List.map (·.1) (ps.map (·.2))).flatten, (List.map (·.2.1) (ps.map (·.2))).flatten,
          (List.map (·.2.2) (ps.map (·.2))).flatten) = (catAK grp, catAV grp, catAI grp) := by
        simp only [hgrp, catAK, catAV, catAI, List.map_map, Function.comp_def]
      rw [hnodes, groupedCombine_argNodes hf sort grp (by simpa [hgrp] using hps) hal', hcat]
      exact ⟨(mergeA k R sort grp).junk, catA_aligned grp hal' _, rfl⟩)
    se (segs.map fun s => (aNode k R sort s, (s.keys, s.vals, s.idxs))) (by simpa using hne)
    (by
      intro p hp
      obtain ⟨s, hs, rfl⟩ := List.mem_map.mp hp
      exact ⟨s.junk, hal s hs, rfl⟩)
  simp only [List.map_map, Function.comp_def] at key
  obtain ⟨j, _, h⟩ := key
  exact ⟨j, h⟩

def offsFrom : Nat → List Nat → List Nat
  | _, [] => []
  | s, c :: cs => s :: offsFrom (s + c) cs

theorem offsets_eq (chunks : List Nat) : offsets chunks = offsFrom 0 chunks := by
  have gen : ∀ (cs : List Nat) (acc : List Nat) (s : Nat),
      (cs.foldl (fun (acc : List Nat × Nat) c => (acc.1 ++ [acc.2], acc.2 + c)) (acc, s)).1
        = acc ++ offsFrom s cs := by
    intro cs
    induction cs with
    | nil => intro acc s; simp [offsFrom]
    | cons c cs ih => intro acc s; simp only [List.foldl_cons, ih, offsFrom, List.append_assoc]; rfl
  simpa [offsets] using gen chunks [] 0

/-- the blocks of a chunked array as arg segments: block `b` carries the global indices `off_b … off_b + n_b - 1` -/
def blockSegs : Nat → List Nat → List Key → List Val → List ASeg
  | _, [], _, _ => []
  | off, n :: ns, keys, vals =>
    ⟨keys.take n, vals.take n, (List.range n).map fun i => Val.ofNat (off + i),
      ((List.range n).map fun i => Val.ofNat (off + i)).getD 0 Val.nan⟩
      :: blockSegs (off + n) ns (keys.drop n) (vals.drop n)

theorem blockSegs_ne_nil (off : Nat) (chunks : List Nat) (keys : List Key) (vals : List Val) (h : chunks ≠ []) :
    blockSegs off chunks keys vals ≠ [] := by
  cases chunks with
  | nil => exact absurd rfl h
  | cons n ns => simp [blockSegs]

theorem blockSegs_aligned (off : Nat) (chunks : List Nat) (keys : List Key) (vals : List Val)
    (hsum : chunks.sum = keys.length) (hlen : keys.length = vals.length) :
    AlignedA (blockSegs off chunks keys vals) := by
  induction chunks generalizing off keys vals with
  | nil => intro p hp; simp [blockSegs] at hp
  | cons n ns ih =>
    intro p hp
    simp only [blockSegs, List.mem_cons] at hp
    simp only [List.sum_cons] at hsum
    rcases hp with rfl | hp
    · constructor
      · simp only [List.length_take]; omega
      · simp only [List.length_take, List.length_map, List.length_range]; omega
    · exact ih (off + n) (keys.drop n) (vals.drop n) (by simp only [List.length_drop]; omega)
        (by simp only [List.length_drop]; omega) p hp

theorem blockSegs_length (off : Nat) (chunks : List Nat) (keys : List Key) (vals : List Val) :
    (blockSegs off chunks keys vals).length = chunks.length := by
  induction chunks generalizing off keys vals with
  | nil => rfl
  | cons n ns ih => simp [blockSegs, ih]

theorem blockSegs_keys (off : Nat) (chunks : List Nat) (keys : List Key) (vals : List Val) :
    (blockSegs off chunks keys vals).map (·.keys) = splitBy chunks keys := by
  induction chunks generalizing off keys vals with
  | nil => rfl
  | cons n ns ih => simp [blockSegs, splitBy, ih]

theorem blockSegs_catAK (off : Nat) (chunks : List Nat) (keys : List Key) (vals : List Val)
    (h : keys.length ≤ chunks.sum) : catAK (blockSegs off chunks keys vals) = keys := by
  rw [catAK, blockSegs_keys, splitBy_flatten chunks keys h]

theorem blockSegs_catAV (off : Nat) (chunks : List Nat) (keys : List Key) (vals : List Val)
    (h : vals.length ≤ chunks.sum) : catAV (blockSegs off chunks keys vals) = vals := by
  induction chunks generalizing off keys vals with
  | nil =>
    have : vals = [] := List.length_eq_zero_iff.mp (by simpa using h)
    simp [blockSegs, this]
  | cons n ns ih =>
    simp only [blockSegs, catAV_cons]
    rw [ih (off + n) (keys.drop n) (vals.drop n) (by simp only [List.length_drop, List.sum_cons] at h ⊢; omega)]
    exact List.take_append_drop n vals

theorem blockSegs_catAI (off : Nat) (chunks : List Nat) (keys : List Key) (vals : List Val) :
    catAI (blockSegs off chunks keys vals) = (List.range chunks.sum).map fun i => Val.ofNat (off + i) := by
  induction chunks generalizing off keys vals with
  | nil => simp [blockSegs]
  | cons n ns ih =>
    simp only [blockSegs, catAI_cons, List.sum_cons]
    rw [ih (off + n) (keys.drop n) (vals.drop n), List.range_add, List.map_append, List.map_map]
    congr 1
    apply List.map_congr_left
    intro i _
    simp only [Function.comp, Nat.add_assoc]

/-- one block as `blockStage` zips it together: keys, values, offset, size -/
def zipSeg (x : List Key × List Val × Nat × Nat) : ASeg :=
  ⟨x.1, x.2.1, (List.range x.2.2.2).map fun i => Val.ofNat (x.2.2.1 + i),
    ((List.range x.2.2.2).map fun i => Val.ofNat (x.2.2.1 + i)).getD 0 Val.nan⟩

theorem blockSegs_eq_zip (off : Nat) (chunks : List Nat) (keys : List Key) (vals : List Val) :
    ((splitBy chunks keys).zip ((splitBy chunks vals).zip ((offsFrom off chunks).zip chunks))).map zipSeg
      = blockSegs off chunks keys vals := by
  induction chunks generalizing off keys vals with
  | nil => rfl
  | cons n ns ih =>
    simp only [splitBy, offsFrom, List.zip_cons_cons, List.map_cons, blockSegs, ih]
    rfl

theorem blockSegs_junk (off : Nat) (chunks : List Nat) (keys : List Key) (vals : List Val) :
    ∀ s ∈ blockSegs off chunks keys vals, s.junk = s.idxs.getD 0 Val.nan := by
  induction chunks generalizing off keys vals with
  | nil => intro s hs; simp [blockSegs] at hs
  | cons n ns ih =>
    intro s hs
    rcases List.mem_cons.mp hs with rfl | hs
    · rfl
    · exact ih _ _ _ s hs

theorem chunkArgreduce_aNode {k : Kernel} {R : Resolved} (hf : ArgFits k R) (sort : Bool) (s : ASeg) (hal : s.Aligned)
    (hj : s.junk = s.idxs.getD 0 Val.nan) :
    chunkArgreduce .npg R.chunk R.interFills s.keys s.vals s.idxs sort = aNode k R sort s := by
  have := chunkArgreduce_node k hf.hk (decide (R.minCount > 0)) s.keys s.vals s.idxs sort hal.1 hal.2
  rw [← hj] at this
  rw [hf.chunk, hf.interFills]
  simp only [decide_eq_true_eq] at this
  exact this

theorem blockStage_argNodes {k : Kernel} (c : Call) (hf : ArgFits k c.R) (heng : c.eng = .npg) (rb : Bool)
    (chunks : List Nat) (keys : List Key) (vals : List Val)
    (hsum : chunks.sum = keys.length) (hlen : keys.length = vals.length) :
    blockStage c rb chunks keys vals = (blockSegs 0 chunks keys vals).map (aNode k c.R c.sort) := by
  unfold blockStage
  simp only [hf.isArg, if_true, offsets_eq, heng]
  rw [← blockSegs_eq_zip, List.map_map]
  refine List.map_congr_left fun x hx => ?_
  have hs : zipSeg x ∈ blockSegs 0 chunks keys vals := blockSegs_eq_zip 0 chunks keys vals ▸ List.mem_map_of_mem hx
  exact chunkArgreduce_aNode hf c.sort (zipSeg x) (blockSegs_aligned 0 chunks keys vals hsum hlen _ hs)
    (blockSegs_junk 0 chunks keys vals _ hs)

abbrev globalIdx (N : Nat) : List Val := (List.range N).map fun i => Val.ofNat i

theorem blockSegs_globalIdx (chunks : List Nat) (keys : List Key) (vals : List Val) :
    catAI (blockSegs 0 chunks keys vals) = globalIdx chunks.sum := by
  rw [blockSegs_catAI]
  simp [globalIdx]

/-- Map-reduce for arg-reductions, up to the combined intermediate: for every chunking and every `split_every` the
    block stage followed by the tree of `_grouped_combine`s yields the arg-sparse node of the whole array with the
    global indices `0 … N-1`. -/
theorem mapreduce_argNode {k : Kernel} (c : Call) (hf : ArgFits k c.R) (heng : c.eng = .npg) (rb : Bool)
    (chunks : List Nat) (keys : List Key) (vals : List Val) (se : Nat)
    (hchunks : chunks ≠ []) (hsum : chunks.sum = keys.length) (hlen : keys.length = vals.length) :
    ∃ j : Val, groupedCombine c.R .npg c.sort (treeReduce (groupedCombine c.R .npg c.sort) se
        (blockStage c rb chunks keys vals))
      = aNode k c.R c.sort ⟨keys, vals, globalIdx keys.length, j⟩ := by
  rw [blockStage_argNodes c hf heng rb chunks keys vals hsum hlen]
  obtain ⟨j, hj⟩ := tree_argNodes hf c.sort se (blockSegs 0 chunks keys vals)
    (blockSegs_ne_nil 0 chunks keys vals hchunks) (blockSegs_aligned 0 chunks keys vals hsum hlen)
  refine ⟨j, ?_⟩
  rw [hj, blockSegs_catAK 0 chunks keys vals (by omega), blockSegs_catAV 0 chunks keys vals (by omega),
    blockSegs_globalIdx, hsum]

end Flox.Grp
