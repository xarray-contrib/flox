/-
  Direct facts about the specification `Spec.reduce` / `Spec.slot` (`FloxModel/Spec.lean`) and about the entry point
  `run` (`FloxModel/Entry.lean`), used by the property file `FloxProps/C05.lean`.
-/
import FloxModel.Spec
import FloxModel.Entry
import FloxProofs.Members
import FloxProofs.MapM

namespace Flox
namespace SpecL

/-- the function `Spec.reduce` maps over `0..n-1` -/
def slotAt (k : Kernel) (minCount : Nat) (userFill : Option Val) (codes : List Int) (vals : List Val) (g : Nat) :
    Option Val :=
  if Spec.isArg k then
    Spec.argSlot k minCount userFill (Spec.positions (Int.ofNat g) codes) (members (Int.ofNat g) codes vals)
  else Spec.slot k minCount userFill (members (Int.ofNat g) codes vals)

theorem reduce_eq (k : Kernel) (mc : Nat) (uf : Option Val) (codes : List Int) (vals : List Val) (n : Nat) :
    Spec.reduce k mc uf codes vals n = (List.range n).mapM (slotAt k mc uf codes vals) := rfl

def NeedsFill (mc : Nat) (ms : List Val) : Prop := ms = [] ∨ Spec.validCount ms < mc

theorem slot_needsFill (k : Kernel) (mc : Nat) (uf : Option Val) (ms : List Val) (h : NeedsFill mc ms) :
    Spec.slot k mc uf ms = uf := by
  unfold Spec.slot
  rcases h with h | h
  · simp [h]
  · by_cases he : ms.isEmpty = true <;> simp [he, h]

theorem argSlot_needsFill (k : Kernel) (mc : Nat) (uf : Option Val) (pos : List Nat) (ms : List Val)
    (h : NeedsFill mc ms) : Spec.argSlot k mc uf pos ms = uf := by
  unfold Spec.argSlot
  rcases h with h | h
  · simp [h]
  · by_cases he : ms.isEmpty = true <;> simp [he, h]

theorem not_needsFill {mc : Nat} {ms : List Val} (h : ¬ NeedsFill mc ms) :
    ms.isEmpty = false ∧ ¬ Spec.validCount ms < mc := by
  refine ⟨?_, fun h' => h (Or.inr h')⟩
  cases ms with
  | nil => exact absurd (Or.inl rfl) h
  | cons _ _ => rfl

theorem slot_value (k : Kernel) (mc : Nat) (uf : Option Val) (ms : List Val) (h : ¬ NeedsFill mc ms) :
    Spec.slot k mc uf ms = some (kEval k ms) := by
  obtain ⟨h1, h2⟩ := not_needsFill h
  simp [Spec.slot, h1, h2]

theorem argSlot_isSome (k : Kernel) (mc : Nat) (uf : Option Val) (pos : List Nat) (ms : List Val)
    (h : ¬ NeedsFill mc ms) : (Spec.argSlot k mc uf pos ms).isSome = true := by
  obtain ⟨h1, h2⟩ := not_needsFill h
  unfold Spec.argSlot
  simp only [h1, Bool.false_eq_true, if_false, h2]
  split <;> rfl

theorem slotAt_needsFill (k : Kernel) (mc : Nat) (uf : Option Val) (codes : List Int) (vals : List Val) (g : Nat)
    (h : NeedsFill mc (members (Int.ofNat g) codes vals)) : slotAt k mc uf codes vals g = uf := by
  unfold slotAt
  split
  · exact argSlot_needsFill k mc uf _ _ h
  · exact slot_needsFill k mc uf _ h

theorem slotAt_value (k : Kernel) (mc : Nat) (uf : Option Val) (codes : List Int) (vals : List Val) (g : Nat)
    (hk : Spec.isArg k = false) (h : ¬ NeedsFill mc (members (Int.ofNat g) codes vals)) :
    slotAt k mc uf codes vals g = some (kEval k (members (Int.ofNat g) codes vals)) := by
  unfold slotAt
  rw [if_neg (by simp [hk])]
  exact slot_value k mc uf _ h

theorem slotAt_isSome_of_not_needsFill (k : Kernel) (mc : Nat) (uf : Option Val) (codes : List Int) (vals : List Val)
    (g : Nat) (h : ¬ NeedsFill mc (members (Int.ofNat g) codes vals)) :
    (slotAt k mc uf codes vals g).isSome = true := by
  unfold slotAt
  split
  · exact argSlot_isSome k mc uf _ _ h
  · rw [slot_value k mc uf _ h]; rfl

theorem reduce_getElem? (k : Kernel) (mc : Nat) (uf : Option Val) (codes : List Int) (vals : List Val) (n : Nat)
    (vs : List Val) (h : Spec.reduce k mc uf codes vals n = some vs) (g : Nat) (hg : g < n) :
    vs[g]? = slotAt k mc uf codes vals g := by
  rw [reduce_eq] at h
  have := mapM_option_getElem? _ _ _ h g (by simpa using hg)
  simpa using this

theorem members_filter (P : Int → Bool) (g : Int) (hg : P g = true) (codes : List Int) (vals : List Val) :
    members g (((codes.zip vals).filter fun p => P p.1).map (·.1))
        (((codes.zip vals).filter fun p => P p.1).map (·.2)) = members g codes vals := by
  rw [members_eq_filter, members_eq_filter, ← List.zip_of_prod rfl rfl, List.filter_filter]
  refine congrArg (List.map _) (List.filter_congr fun p _ => ?_)
  by_cases e : p.1 = g <;> simp [e, hg]

/-- when the labels are known at graph-construction time, the labels `run` returns are exactly those of
    `factorizeLabels` (the requested ones when `expected_groups` is given), whatever the plan and the data -/
theorem run_groups (rows : List InitRow) (rq : Request) (plan : Plan) (chunks : List Nat) (labels : List Key)
    (vals : List Val) (gs : List Key) (vs : List Val) (hk : rq.known = true)
    (h : run rows rq plan chunks labels vals = .ok gs vs) :
    gs = (factorizeLabels labels rq.expected rq.sort).1.map some := by
  unfold run at h
  simp only [hk, if_true] at h
  split at h
  · cases h
  · split at h
    · cases h
    · split at h
      · cases h
      · split at h
        · simp only [Outcome.ok.injEq] at h
          exact h.1.symm
        · cases h

end SpecL
end Flox
