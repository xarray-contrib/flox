/-
  Metadata of partial-axis reductions (property C08): which axis of the user's array every output axis is,
  eager vs chunked.  The statements about `entryOf` are for an arbitrary list of reduced dims; `sorted(...)`
  enters only as a sorted permutation.
-/
import FloxModel.PartialAxis
import FloxProofs.InsertionSort

namespace Flox
namespace PartialAxis

theorem normAxis1_nonneg (ndim a : Nat) (h : a < ndim) : normAxis1 ndim (a : Int) = some a := by
  have h1 : (0 : Int) ≤ (a : Int) ∧ (a : Int) < (ndim : Int) := by omega
  simp [normAxis1, h1]

theorem normAxis1_neg (ndim a : Nat) (h : a < ndim) : normAxis1 ndim ((a : Int) - (ndim : Int)) = some a := by
  have h1 : ¬ ((0 : Int) ≤ (a : Int) - (ndim : Int) ∧ (a : Int) - (ndim : Int) < (ndim : Int)) := by omega
  have h2 : -(ndim : Int) ≤ (a : Int) - (ndim : Int) ∧ (a : Int) - (ndim : Int) < 0 := by omega
  simp only [normAxis1, h1, if_false, h2, and_self, if_true]
  congr 1
  omega

theorem mem_keptDims {ndim : Nat} {axes : List Nat} {d : Nat} :
    d ∈ keptDims ndim axes ↔ d < ndim ∧ d ∉ axes := by
  simp [keptDims]

theorem keptDims_congr (ndim : Nat) {l l' : List Nat} (h : ∀ d, d ∈ l ↔ d ∈ l') :
    keptDims ndim l = keptDims ndim l' := by
  unfold keptDims
  apply List.filter_congr
  intro d _
  simp only [List.contains_eq_mem, h d]

theorem kept_count (n : Nat) (l : List Nat) (hnd : l.Nodup) (hlt : ∀ a ∈ l, a < n) :
    (keptDims n l).length + l.length = n := by
  have hsplit := (List.filter_append_perm (fun d => l.contains d) (List.range n)).length_eq
  -- the reduced dims filtered out of `range n` are `l` up to order: both are duplicate-free with the same elements
  have hred : ((List.range n).filter fun d => l.contains d).Perm l :=
    (List.perm_ext_iff_of_nodup (List.Pairwise.filter _ List.nodup_range) hnd).mpr fun d => by
      simp only [List.mem_filter, List.mem_range, List.contains_eq_mem, decide_eq_true_eq]
      exact ⟨fun h => h.2, fun h => ⟨hlt d h, h⟩⟩
  rw [List.length_append, hred.length_eq, List.length_range, Nat.add_comm] at hsplit
  exact hsplit

theorem entryOf_of_lt {ndim byNdim : Nat} {axes : List Nat} (h : axes.length < byNdim) :
    entryOf ndim byNdim axes =
      { order := moveOrder ndim axes, byOrder := moveOrder byNdim (axes.map (· - (ndim - byNdim))),
        axes := (List.range axes.length).map (· + (ndim - axes.length)), nax := axes.length, moved := true } := by
  simp only [entryOf, h, if_true]

theorem entryOf_of_not_lt {ndim byNdim : Nat} {axes : List Nat} (h : ¬ axes.length < byNdim) :
    entryOf ndim byNdim axes =
      { order := List.range ndim, byOrder := List.range byNdim, axes := axes, nax := axes.length, moved := false } := by
  simp only [entryOf, h, if_false]

theorem moveOrder_take (ndim : Nat) (axes : List Nat) (hnd : axes.Nodup) (hlt : ∀ a ∈ axes, a < ndim) :
    (moveOrder ndim axes).take (ndim - axes.length) = keptDims ndim axes := by
  have := kept_count ndim axes hnd hlt
  unfold moveOrder
  apply List.take_left'
  omega

theorem keptDims_lower (ndim b : Nat) (axes : List Nat) (hb : b ≤ ndim) (hge : ∀ a ∈ axes, ndim - b ≤ a) :
    keptDims ndim axes = List.range (ndim - b) ++ ((List.range b).map (ndim - b + ·)).filter fun d => !axes.contains d := by
  have : ndim = (ndim - b) + b := by omega
  conv => lhs; rw [this]
  simp only [keptDims, List.range_add, List.filter_append]
  congr 1
  apply List.filter_eq_self.mpr
  intro d hd
  have hd' : d < ndim - b := List.mem_range.mp hd
  have : d ∉ axes := fun h => by have := hge d h; omega
  simpa using this

/-- all label dims reduced: nothing is moved and the code takes `array.shape[:-nax]` -/
theorem keptDims_all (ndim : Nat) (axes : List Nat) (hnd : axes.Nodup) (hlt : ∀ a ∈ axes, a < ndim)
    (hge : ∀ a ∈ axes, ndim - axes.length ≤ a) :
    keptDims ndim axes = List.range (ndim - axes.length) := by
  have hc := kept_count ndim axes hnd hlt
  rw [keptDims_lower ndim axes.length axes (by omega) hge] at hc ⊢
  simp only [List.length_append, List.length_range] at hc
  -- by the count, none of the last `nax` dims is kept
  rw [List.length_eq_zero_iff.mp (by omega : (((List.range axes.length).map (ndim - axes.length + ·)).filter
    fun d => !axes.contains d).length = 0), List.append_nil]

theorem outDims_eq_kept (ndim byNdim : Nat) (axes : List Nat) (hnd : axes.Nodup)
    (hlt : ∀ a ∈ axes, a < ndim) (hge : ∀ a ∈ axes, ndim - byNdim ≤ a) (hlen : axes.length ≤ byNdim) :
    outDims ndim (entryOf ndim byNdim axes) = keptDims ndim axes := by
  unfold outDims
  by_cases h : axes.length < byNdim
  · rw [entryOf_of_lt h]
    exact moveOrder_take ndim axes hnd hlt
  · have hl : axes.length = byNdim := by omega
    rw [entryOf_of_not_lt h, keptDims_all ndim axes hnd hlt (by rw [hl]; exact hge)]
    simp only [List.take_range]
    congr 1
    omega

theorem eagerOutShape_eq (shape : List Nat) (e : Entry) (G : Nat) :
    eagerOutShape shape e G = (outDims shape.length e).map (fun d => shape.getD d 1) ++ [G] := by
  simp [eagerOutShape, outDims, permuteShape, List.map_take]

/-- the shape announced by the graph (`out_inds = inds[:-len(axis)] + (inds[-1],)`) is the eager one: `entryOf`
    always hands on as many axes as it counts -/
theorem chunkedOutShape_entryOf (shape : List Nat) (ndim byNdim G : Nat) (axes : List Nat) :
    chunkedOutShape shape (entryOf ndim byNdim axes) G = eagerOutShape shape (entryOf ndim byNdim axes) G := by
  have : (entryOf ndim byNdim axes).axes.length = (entryOf ndim byNdim axes).nax := by
    by_cases h : axes.length < byNdim
    · simp [entryOf_of_lt h]
    · rw [entryOf_of_not_lt h]
  unfold chunkedOutShape eagerOutShape
  rw [this]

theorem chunkedError_eq_none (ndim : Nat) (e : Entry) (m : Method)
    (h : e.axes.dropLast.contains (ndim - 1) = false) : chunkedError ndim e m = none := by
  cases m <;> simp only [chunkedError, h] <;> rfl

theorem ascending_dropLast_not_last (ndim : Nat) (l : List Nat) (hs : l.Pairwise (· < ·))
    (hlt : ∀ a ∈ l, a < ndim) : l.dropLast.contains (ndim - 1) = false := by
  simp only [List.contains_eq_mem, decide_eq_false_iff_not]
  intro hc
  have hne : l ≠ [] := by intro e; simp [e] at hc
  rw [← List.dropLast_concat_getLast hne] at hs
  have := (List.pairwise_append.mp hs).2.2 (ndim - 1) hc _ (List.mem_singleton_self _)
  have := hlt _ (List.getLast_mem hne)
  omega

/-- the `axis_` handed on is strictly ascending and `< ndim` in both cases of `entryOf` (renumbered to the last
    `nax` dims, or handed on as given), so `_simple_combine` never sees a repeated axis -/
theorem chunked_ok_of_ascending (ndim byNdim : Nat) (axes : List Nat) (hs : axes.Pairwise (· < ·))
    (hlt : ∀ a ∈ axes, a < ndim) (m : Method) :
    chunkedError ndim (entryOf ndim byNdim axes) m = none := by
  apply chunkedError_eq_none
  by_cases h : axes.length < byNdim
  · have := kept_count ndim axes (hs.imp Nat.ne_of_lt) hlt
    rw [entryOf_of_lt h]
    refine ascending_dropLast_not_last ndim _
      (List.pairwise_lt_range.map _ fun _ _ hij => Nat.add_lt_add_right hij _) fun a ha => ?_
    obtain ⟨i, hi, rfl⟩ := List.mem_map.mp ha
    have := List.mem_range.mp hi
    omega
  · rw [entryOf_of_not_lt h]
    exact ascending_dropLast_not_last ndim axes hs hlt

theorem insertNat_eq (x : Nat) : ∀ l, insertNat x l = insertBy (· ≤ ·) x l
  | [] => rfl
  | y :: ys => by rw [insertNat, insertBy_cons, insertNat_eq x ys]

theorem sortNat_eq_isort : ∀ l, sortNat l = isort (· ≤ ·) l
  | [] => rfl
  | x :: xs => by rw [isort, ← sortNat_eq_isort xs, ← insertNat_eq]; rfl

theorem perm_sortNat (l : List Nat) : (sortNat l).Perm l :=
  sortNat_eq_isort l ▸ isort_perm _ l

theorem pairwise_sortNat (l : List Nat) : (sortNat l).Pairwise (· ≤ ·) :=
  sortNat_eq_isort l ▸ isort_sorted ⟨Nat.le_total, Nat.le_trans⟩ l

theorem ascending_sortNat (l : List Nat) (hnd : l.Nodup) : (sortNat l).Pairwise (· < ·) :=
  ((pairwise_sortNat l).and ((perm_sortNat l).nodup_iff.mpr hnd)).imp fun h => Nat.lt_of_le_of_ne h.1 h.2

end PartialAxis
end Flox
