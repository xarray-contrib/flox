/-
  `_finalize_results` (finalize "second" = the index column, count mask) and the final reindex on the
  arg-sparse node of the whole array, linked to the specification (`Spec.argSlot` / `Spec.positions`):
  `mapreduce_arg_eq_spec`.
-/
import FloxProofs.ArgCombine

namespace Flox.Grp

theorem memberPosK_codeKeys (g : Int) (codes : List Int) :
    memberPosK (some (g : Rat)) (codeKeys codes) = Spec.positions g codes :=
  posWhere_map _ (· = g) _ codes 0 (fun c _ => by simp [Rat.intCast_inj])

theorem globalIdx_getD (N p : Nat) (h : p < N) : (globalIdx N).getD p Val.nan = Val.ofNat p := by
  rw [globalIdx, getD_map_lt _ _ _ _ (by simpa using h)]
  simp

/-- the whole array as an arg segment: global indices `0 … N-1` -/
abbrev wholeSeg (codes : List Int) (vals : List Val) (j : Val) : ASeg :=
  ⟨codeKeys codes, vals, globalIdx codes.length, j⟩

theorem wholeSeg_aligned (codes : List Int) (vals : List Val) (j : Val) (hlen : codes.length = vals.length) :
    (wholeSeg codes vals j).Aligned := by
  constructor
  · simp [codeKeys, hlen]
  · simp [codeKeys, globalIdx]

theorem wholeSeg_pairs_fst (codes : List Int) (vals : List Val) (j : Val) (hlen : codes.length = vals.length)
    (g : Int) : ((wholeSeg codes vals j).pairs (some (g : Rat))).map (·.1) = members g codes vals := by
  rw [ASeg.pairs_fst _ (wholeSeg_aligned codes vals j hlen)]
  exact membersK_codeKeys g codes vals

/-- the index column is the specification's index: on a label with a selectable member, `argPick` over the
    (value, global index) pairs of the label is the position in the whole array of the first occurrence of the extreme -/
theorem argPick_wholeSeg (k : Kernel) (hk : isArgKernel k = true) (codes : List Int) (vals : List Val) (j junk : Val)
    (hlen : codes.length = vals.length) (g : Int) (hne : members g codes vals ≠ [])
    (hg : argSel k ((wholeSeg codes vals j).pairs (some (g : Rat))) ≠ []) :
    argPick k junk ((wholeSeg codes vals j).pairs (some (g : Rat)))
      = Val.ofNat ((Spec.positions g codes).getD (argBest (argBetter k) (members g codes vals)) 0) := by
  have hal := wholeSeg_aligned codes vals j hlen
  rw [argPick_good k hk junk _ hg, wholeSeg_pairs_fst codes vals j hlen g]
  have hlt := argBest_lt (argBetter k) _ hne
  have hlenpos : (members g codes vals).length = (Spec.positions g codes).length := by
    rw [← membersK_codeKeys g codes vals, membersK_length _ _ _ (by simp [codeKeys, hlen]), memberPosK_codeKeys]
  rw [hlenpos] at hlt
  rw [ASeg.pairs_eq_map_pos _ hal, memberPosK_codeKeys, getD_map_lt _ _ _ _ hlt]
  simp only
  obtain ⟨m, a, hm, ha, _⟩ := (mem_posWhere (· = g) codes 0 _).mp
    (List.getElem_mem (l := Spec.positions g codes) hlt)
  rw [globalIdx_getD _ _ (by rw [hm, Nat.zero_add]; exact (List.getElem?_eq_some_iff.mp ha).1)]
  simp [List.getD_eq_getElem?_getD, hlt]

theorem specIsArg_eq (k : Kernel) : Spec.isArg k = isArgKernel k := by cases k <;> rfl

/-- the specification slot of an arg-reduction, with `none` read as flox's `ValueError` -/
def specArgSlot (R : Resolved) (k : Kernel) (pos : List Nat) (ms : List Val) : Except String Val :=
  optToExcept (Spec.argSlot k R.minCount R.userFill pos ms)

theorem specResult_arg_slots (k : Kernel) (hk : isArgKernel k = true) (R : Resolved) (codes : List Int)
    (vals : List Val) (n : Nat) :
    specResult k R codes vals n
      = (List.range n).mapM fun (g : Nat) =>
          specArgSlot R k (Spec.positions (Int.ofNat g) codes) (members (Int.ofNat g) codes vals) := by
  have h := mapM_option_toExcept
    (fun (g : Nat) => Spec.argSlot k R.minCount R.userFill (Spec.positions (Int.ofNat g) codes)
      (members (Int.ofNat g) codes vals)) (List.range n)
  unfold specResult Spec.reduce
  simp only [specIsArg_eq, hk, if_true]
  cases hm : (List.range n).mapM
      (fun (g : Nat) => Spec.argSlot k R.minCount R.userFill (Spec.positions (Int.ofNat g) codes)
        (members (Int.ofNat g) codes vals)) with
  | none => rw [hm] at h; exact h
  | some vs => rw [hm] at h; exact h

theorem specArgSlot_nil (R : Resolved) (k : Kernel) (pos : List Nat) :
    specArgSlot R k pos [] = fillOrError R.userFill :=
  congrArg optToExcept (SpecL.argSlot_needsFill k _ _ pos [] (.inl rfl))

theorem specArgSlot_unmasked (R : Resolved) (k : Kernel) (hk : isArgKernel k = true) (pos : List Nat) (ms : List Val)
    (hne : ms ≠ []) (hun : ¬ Spec.validCount ms < R.minCount) :
    specArgSlot R k pos ms = .ok (Val.ofNat (pos.getD (argBest (argBetter k) ms) 0)) := by
  have hne' : ms.isEmpty = false := by simpa using hne
  unfold specArgSlot Spec.argSlot
  simp only [hne', Bool.false_eq_true, if_false, hun, kEval_arg k hk]
  simp [Val.ofNat, optToExcept]

/-- `nanargmax` / `nanargmin`: a requested label that occurs has at least one non-NaN member, unless the
    count mask is on (`min_count ≥ 1` masks an all-NaN group).  NumPy raises "All-NaN slice encountered" there; the
    model stores a junk index. -/
def HNotAllNaN (k : Kernel) (R : Resolved) (ms : List Val) : Prop :=
  k.skipsNaN = true → ms ≠ [] → R.minCount ≥ 1 ∨ dropNaN ms ≠ []

instance (k : Kernel) (R : Resolved) (ms : List Val) : Decidable (HNotAllNaN k R ms) := by
  unfold HNotAllNaN; infer_instance

theorem finalizeVals_second (R : Resolved) (cols : List (List Val)) (h : R.finalize = "second") :
    finalizeVals R cols = cols.getD 1 [] := by
  unfold finalizeVals
  rw [h]
  rfl

theorem aNode_finalize {k : Kernel} {R : Resolved} (hf : ArgFits k R) (sort : Bool) (s : ASeg) :
    finalizeVals R (if R.minCount > 0 then (aNode k R sort s).cols.dropLast else (aNode k R sort s).cols)
      = nodeCol sort s.keys Val.zero fun r => argPick k s.junk (s.pairs (some r)) := by
  rw [finalizeVals_second _ _ hf.fin]
  by_cases hm : R.minCount > 0
  · rw [if_pos hm, aNode_of_pos hm]; rfl
  · rw [if_neg hm, aNode_of_not_pos hm]; rfl

theorem aNode_count (k : Kernel) {R : Resolved} (hm : R.minCount > 0) (sort : Bool) (s : ASeg) :
    (aNode k R sort s).cols.getLastD []
      = nodeCol sort s.keys Val.zero fun r => countVal (membersK (some r) s.keys s.vals) := by
  rw [aNode_of_pos hm]; rfl

/-- what the map-reduce path puts into the slot of group `g` (`j`: the junk index, see `tree_argNodes`) -/
def argMrSlot (k : Kernel) (R : Resolved) (codes : List Int) (vals : List Val) (j : Val) (g : Int) :
    Except String Val :=
  maskedSlot R (countVal (members g codes vals))
    (argPick k j ((wholeSeg codes vals j).pairs (some (g : Rat))))

theorem runKnown_arg_slots (k : Kernel) (R : Resolved) (c : Call) (n : Nat) (floatData : Bool)
    (chunks : List Nat) (codes : List Int) (vals : List Val)
    (hR : c.R = R) (heng : c.eng = .npg) (hn : c.ngroups = n) (hf : ArgFits k R) (hcodes : CodesOK codes n)
    (hlen : codes.length = vals.length) (hne : codes ≠ [])
    (hchunks : chunks ≠ []) (hsum : chunks.sum = codes.length)
    (H_dropped : HDropped R codes vals) :
    ∃ j : Val, runKnown c (.mapreduce false) floatData chunks (codeKeys codes) vals
      = (List.range n).mapM fun (g : Nat) =>
          if members (Int.ofNat g) codes vals = [] then fillOrError R.userFill
          else argMrSlot k R codes vals j (Int.ofNat g) := by
  subst hR
  have hklen := codeKeys_length codes
  have hcombine : useGroupedCombine c floatData = true := by simp [useGroupedCombine, hf.isArg]
  obtain ⟨j, hj⟩ := mapreduce_argNode c hf heng false chunks (codeKeys codes) vals c.splitEvery hchunks
    (by omega) (by omega)
  refine ⟨j, ?_⟩
  rw [runKnown_mapreduce_grouped c false _ _ _ _ hcombine, heng, hj, hklen]
  have hpk := presentKeys_codeKeys_ne_nil codes hne
  have hcol : ∀ (d : Val) (slot : Rat → Val),
      nodeCol c.sort (codeKeys codes) d slot = (foundOf c.sort (codeKeys codes)).map slot :=
    fun d slot => if_neg hpk
  rw [hn]
  exact finish_codes c n (aNode k c.R c.sort (wholeSeg codes vals j)) codes vals
    (fun r => argPick k j ((wholeSeg codes vals j).pairs (some r))) hn hcodes hlen hne (if_neg hpk)
    ((aNode_finalize hf c.sort _).trans (hcol _ _)) (fun hm => (aNode_count k hm c.sort _).trans (hcol _ _))
    H_dropped

theorem argMrSlot_eq_spec (k : Kernel) (R : Resolved) (hf : ArgFits k R) (codes : List Int) (vals : List Val)
    (j : Val) (hlen : codes.length = vals.length) (g : Int) (hm : members g codes vals ≠ [])
    (H_notallnan : HNotAllNaN k R (members g codes vals)) :
    argMrSlot k R codes vals j g = specArgSlot R k (Spec.positions g codes) (members g codes vals) := by
  unfold argMrSlot
  rw [maskedSlot_countVal]
  by_cases hlt : Spec.validCount (members g codes vals) < R.minCount
  · rw [if_pos ⟨by omega, hlt⟩]
    exact (congrArg optToExcept (SpecL.argSlot_needsFill k _ _ _ _ (.inr hlt))).symm
  · have hcond : ¬ (R.minCount > 0 ∧ Spec.validCount (members g codes vals) < R.minCount) := fun h => hlt h.2
    rw [if_neg hcond, specArgSlot_unmasked R k hf.hk _ _ hm hlt]
    congr 1
    apply argPick_wholeSeg k hf.hk codes vals j j hlen g hm
    -- the label has a selectable member
    intro e
    have he : (if k.skipsNaN then dropNaN (members g codes vals) else members g codes vals) = [] := by
      rw [← wholeSeg_pairs_fst codes vals j hlen g, ← argSel_map_fst, e]; rfl
    split at he
    · rename_i hs
      rcases H_notallnan hs hm with h | h
      · apply hlt
        simp only [Spec.validCount, he, List.length_nil]
        omega
      · exact h he
    · exact hm he

/-- End to end (C06).  `runKnown … (.mapreduce false)` of an arg-reduction (`argmax`, `argmin`, `nanargmax`,
    `nanargmin`) with the numpy_groupies engine (`heng`) and a blueprint of the form `ArgFits` (flox since commit
    41daa06, float data, with or without `min_count`) equals the specification – the slot of every requested label is
    the position in the whole array of the first occurrence of the label's extreme – for every chunking and every
    `split_every`.  Besides well-formed input:

    * `argmax` / `argmin`: no hypothesis on NaNs (a NaN is the extreme, first NaN wins, as in NumPy);
    * `nanargmax` / `nanargmin`: `H_notallnan` – every occurring requested label has a non-NaN member (or the count
      mask is on);
    * `H_dropped` as for every grouped combine (count mask applied to the group of dropped elements). -/
theorem mapreduce_arg_eq_spec (k : Kernel) (R : Resolved) (c : Call) (n : Nat) (floatData : Bool)
    (chunks : List Nat) (codes : List Int) (vals : List Val)
    (hR : c.R = R) (heng : c.eng = .npg) (hn : c.ngroups = n) (hf : ArgFits k R) (hcodes : CodesOK codes n)
    (hlen : codes.length = vals.length) (hne : codes ≠ [])
    (hchunks : chunks ≠ []) (hsum : chunks.sum = codes.length)
    (H_notallnan : ∀ g : Nat, g < n → HNotAllNaN k R (members (Int.ofNat g) codes vals))
    (H_dropped : HDropped R codes vals) :
    runKnown c (.mapreduce false) floatData chunks (codeKeys codes) vals = specResult k R codes vals n := by
  obtain ⟨j, hj⟩ := runKnown_arg_slots k R c n floatData chunks codes vals hR heng hn hf hcodes hlen hne hchunks hsum
    H_dropped
  rw [hj, specResult_arg_slots k hf.hk]
  apply mapM_congr
  intro g hg
  by_cases hm : members (Int.ofNat g) codes vals = []
  · rw [if_pos hm, hm, specArgSlot_nil]
  · simp only [hm, if_false]
    exact argMrSlot_eq_spec k R hf codes vals j hlen _ hm (H_notallnan g (List.mem_range.mp hg))

theorem mapreduce_arg_chunking_tree_irrelevant (k : Kernel) (R : Resolved) (c₁ c₂ : Call) (n : Nat)
    (floatData : Bool) (chunks₁ chunks₂ : List Nat) (codes : List Int) (vals : List Val)
    (hR₁ : c₁.R = R) (heng₁ : c₁.eng = .npg) (hn₁ : c₁.ngroups = n)
    (hR₂ : c₂.R = R) (heng₂ : c₂.eng = .npg) (hn₂ : c₂.ngroups = n)
    (hf : ArgFits k R) (hcodes : CodesOK codes n)
    (hlen : codes.length = vals.length) (hne : codes ≠ [])
    (hchunks₁ : chunks₁ ≠ []) (hsum₁ : chunks₁.sum = codes.length)
    (hchunks₂ : chunks₂ ≠ []) (hsum₂ : chunks₂.sum = codes.length)
    (H_notallnan : ∀ g : Nat, g < n → HNotAllNaN k R (members (Int.ofNat g) codes vals))
    (H_dropped : HDropped R codes vals) :
    runKnown c₁ (.mapreduce false) floatData chunks₁ (codeKeys codes) vals
      = runKnown c₂ (.mapreduce false) floatData chunks₂ (codeKeys codes) vals := by
  rw [mapreduce_arg_eq_spec k R c₁ n floatData chunks₁ codes vals hR₁ heng₁ hn₁ hf hcodes hlen hne hchunks₁ hsum₁
      H_notallnan H_dropped,
    mapreduce_arg_eq_spec k R c₂ n floatData chunks₂ codes vals hR₂ heng₂ hn₂ hf hcodes hlen hne hchunks₂ hsum₂
      H_notallnan H_dropped]

end Flox.Grp
