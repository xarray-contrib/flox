/-
  C11 — proofs about the dtype model (`FloxModel/Dtype.lean`) over the regenerated table
  (`FloxModel/Generated/Dtypes.lean`).  The grid reduction × dtype × dtype= × fill × min_count × engine is finite: it IS
  the property's quantifier, and every statement below is for ALL its cells (kernel-checked enumeration of the rows
  the cells read: bool and datetime-like input is mostly reduced as int64, `entryDtype`, and the rows of the table
  behind those dtypes that no cell reads are not looked at).

  The model reads the table through `findDRow`; evaluating it cell by cell would search the ten rows behind (f, d, u)
  again for every cell and every fact.  Instead the ten rows are walked once, two at a time (`pairsAll`), each row is
  checked for the cells that read it (`readersOk`), and `pairsAll_find` says what `findDRow` then returns.

  At the end, apart from the dtypes: what `chunk_reduce` returns as the groups of one block (`blockEmpty`,
  `chunkReduce_groups_none`), for the chunk theorems of `FloxProps/C11.lean`.
-/
import FloxModel.Generated.Dtypes
import FloxModel.XDims  -- the `DecidableEq (Except ε α)` instance lives there

namespace Flox.DtypeProofs
open Flox Flox.Generated

theorem func_mem (f : Func) : f ∈ Func.all := by cases f <;> decide
theorem input_mem {d : DType} (h : d ≠ .obj) : d ∈ DType.inputs := by cases d <;> first | decide | exact absurd rfl h
theorem user_mem (u : UserD) : u ∈ UserD.all := by cases u <;> decide
theorem fill_mem (k : FillK) : k ∈ FillK.all := by cases k <;> decide

/-- NumPy's dtype × dtype promotion, as tabulated from NumPy -/
def promote (a b : DType) : Option DType := lookup2 npPromote a b

/-- the model on the regenerated table -/
def model (f : Func) (d : DType) (u : UserD) (k : FillK) (mc e : Bool) : Except String DType :=
  apiDtype dtypeRowsOf f d u k mc e

def spec (f : Func) (d : DType) (u : UserD) (k : FillK) : Option DType := npConvention promote f d u k

def exceptOk? : Except String DType → Option DType
  | .ok d => some d
  | .error _ => none

/-- the result dtype (`none` = the call is refused) -/
def modelDtype (f : Func) (d : DType) (u : UserD) (k : FillK) (mc e : Bool) : Option DType :=
  exceptOk? (model f d u k mc e)

def wide (t : DType) : Bool := t == .i64 || t == .u64 || t == .f64

/-- the chunk kernels whose intermediate is a running sum, product or sum of squares (those a narrow integer
    accumulator could wrap in) -/
def sumLike (s : String) : Bool :=
  s == "sum" || s == "nansum" || s == "prod" || s == "nanprod" || s == "sum_of_squares" || s == "nansum_of_squares"

def accumulates (f : Func) : Bool := f.family == .additive || f.family == .floating || f.family == .quantile

/-! Tie 2: the hand-written NumPy conventions of the spec agree with NumPy's own tables. -/

theorem range_eq_numpy :
    ∀ r ∈ npFits, (match r.1.range?, r.2.1.int? with
      | some (lo, hi), some v => some (decide (lo ≤ v ∧ v ≤ hi))
      | _, _ => none) = some r.2.2 := by decide +kernel

theorem npBase_nan_variants (d : DType) :
    npBase .nansum d = npBase .sum d ∧ npBase .nanprod d = npBase .prod d ∧ npBase .nanmean d = npBase .mean d ∧
    npBase .nanvar d = npBase .var d ∧ npBase .nanstd d = npBase .std d ∧ npBase .nanmax d = npBase .max_ d ∧
    npBase .nanmin d = npBase .min_ d ∧ npBase .nanargmax d = npBase .argmax d ∧ npBase .nanargmin d = npBase .argmin d ∧
    npBase .nanmedian d = npBase .median d ∧ npBase .nanquantile d = npBase .quantile d := by
  cases d <;> decide

/-- flox's `_maybe_promote_int` is NumPy's default-integer promotion of sums / products (bool is handled at entry) -/
theorem promoteInt_eq_convention : ∀ r ∈ floxPromoteInt, r.1 ≠ .bool → r.2 = npBase .sum r.1 := by decide +kernel

/-- `is_bool_array`: a bool array is reduced as int64 by everything but any / all -/
def boolAsInt (f : Func) (d : DType) : Bool := d = .bool && !f.boolSupported

/-- `requires_numeric and is_npdatetime`: a datetime-like array is reduced as its int64 view -/
def viewed (f : Func) (d : DType) (e : Bool) : Bool :=
  requiresNumeric f e && (if boolAsInt f d then DType.i64 else d).isDatetimeLike

/-- the array dtype `_initialize_aggregation` is asked about -/
def entryDtype (f : Func) (d : DType) (e : Bool) : DType :=
  if viewed f d e then .i64 else if boolAsInt f d then .i64 else d

/-- the casts `groupby_reduce` applies to the table's final dtype on the way out -/
def exitDtype (f : Func) (d : DType) (u : UserD) (k : FillK) (e : Bool) (final : DType) : DType :=
  if viewed f d e && f ≠ .count then d
  else if boolAsInt f d && (f.isMinMax || f.isFirstLast) && u = .unset && k = .unset then .bool else final

/-- the row of the table that the cell (f, d, u, k, mc) reads -/
def cellRow (rowsOf : DTable) (f : Func) (d : DType) (u : UserD) (k : FillK) (mc e : Bool) : Option DRow :=
  findDRow rowsOf f (entryDtype f d e) u (effFill f k mc) mc

theorem apiInit_eq (rowsOf : DTable) (f : Func) (d : DType) (u : UserD) (k : FillK) (mc e : Bool) :
    apiInit rowsOf f d u k mc e = (cellRow rowsOf f d u k mc e).bind (·.res) := rfl

theorem apiDtype_eq (rowsOf : DTable) (f : Func) (d : DType) (u : UserD) (k : FillK) (mc e : Bool) :
    apiDtype rowsOf f d u k mc e =
      if argFloatRefused f u then .error "ValueError" else
      match cellRow rowsOf f d u k mc e with
      | none => .error "no-row"
      | some r =>
        match r.res with
        | none => .error r.err
        | some init => .ok (exitDtype f d u k e init.final) := rfl

theorem modelDtype_eq (f : Func) (d : DType) (u : UserD) (k : FillK) (mc e : Bool) :
    modelDtype f d u k mc e =
      if argFloatRefused f u then none
      else (((cellRow dtypeRowsOf f d u k mc e).bind (·.res)).map (·.final)).map (exitDtype f d u k e) := by
  simp only [modelDtype, model, apiDtype_eq]
  split
  · rfl
  · cases cellRow dtypeRowsOf f d u k mc e with
    | none => rfl
    | some r => cases hres : r.res <;> simp [exceptOk?, hres]

theorem engine_irrelevant_of_viewed (rowsOf : DTable) {f : Func} {d : DType} (h : viewed f d true = viewed f d false)
    (u : UserD) (k : FillK) (mc : Bool) :
    apiDtype rowsOf f d u k mc true = apiDtype rowsOf f d u k mc false ∧
    apiInit rowsOf f d u k mc true = apiInit rowsOf f d u k mc false := by
  simp only [apiDtype_eq, apiInit_eq, cellRow, entryDtype, exitDtype, h, and_self]

theorem viewed_engine {f : Func} {d : DType} (h : f ≠ .count ∨ d.isDatetimeLike = false) :
    viewed f d true = viewed f d false := by
  rcases h with h | h
  · have : requiresNumeric f true = requiresNumeric f false := by cases f <;> first | rfl | exact absurd rfl h
    simp only [viewed, this]
  · have : (if boolAsInt f d then DType.i64 else d).isDatetimeLike = false := by split <;> first | rfl | exact h
    simp only [viewed, this, Bool.and_false]

/-- `count` of a datetime-like array: `engine="flox"` reads the rows of the array dtype, the other engines those of
    int64; they agree -/
theorem count_datetime_engine :
    ([DType.M8, .m8].all fun d => UserD.all.all fun u => FillK.all.all fun k => [false, true].all fun mc =>
      model .count d u k mc true == model .count d u k mc false &&
      apiInit dtypeRowsOf .count d u k mc true == apiInit dtypeRowsOf .count d u k mc false) = true := by
  decide +kernel

theorem engine_independent (f : Func) (d : DType) (u : UserD) (k : FillK) (mc : Bool) :
    model f d u k mc true = model f d u k mc false ∧
    apiInit dtypeRowsOf f d u k mc true = apiInit dtypeRowsOf f d u k mc false := by
  by_cases h : f ≠ .count ∨ d.isDatetimeLike = false
  · exact engine_irrelevant_of_viewed dtypeRowsOf (viewed_engine h) u k mc
  · have hf : f = .count := Classical.not_not.mp fun hf => h (.inl hf)
    have hd : d ∈ [DType.M8, .m8] := by
      cases d <;> first | decide | exact absurd (.inr rfl) h
    subst hf
    have hc := count_datetime_engine
    simp only [List.all_eq_true, Bool.and_eq_true, beq_iff_eq] at hc
    exact hc d hd u (user_mem u) k (fill_mem k) mc (by cases mc <;> decide)

theorem model_engine (f : Func) (d : DType) (u : UserD) (k : FillK) (mc e : Bool) :
    model f d u k mc e = model f d u k mc false := by
  cases e
  · rfl
  · exact (engine_independent f d u k mc).1

theorem modelDtype_engine (f : Func) (d : DType) (u : UserD) (k : FillK) (mc e : Bool) :
    modelDtype f d u k mc e = modelDtype f d u k mc false := by
  unfold modelDtype
  rw [model_engine]

theorem apiInit_engine (f : Func) (d : DType) (u : UserD) (k : FillK) (mc e : Bool) :
    apiInit dtypeRowsOf f d u k mc e = apiInit dtypeRowsOf f d u k mc false := by
  cases e
  · rfl
  · exact (engine_independent f d u k mc).2

theorem FillK.beq_ctorIdx {a b : FillK} : Nat.beq a.ctorIdx b.ctorIdx = true ↔ a = b := by
  refine ⟨fun h => ?_, fun h => by rw [h, Nat.beq_refl]⟩
  have := congrArg FillK.ofNat (Nat.eq_of_beq_eq_true h)
  rwa [FillK.ofNat_ctorIdx, FillK.ofNat_ctorIdx] at this

/-- `r.fill = k`, compared by constructor index: the kernel does `Nat.beq` on numerals at once, while `r.fill == k` goes
    through the derived `DecidableEq` with every row -/
def hasFill (k : FillK) (r : DRow) : Bool := Nat.beq r.fill.ctorIdx k.ctorIdx

/-- `rows` holds, for every fill `k` of `ks` in turn, the row (k, `min_count` = 0) and then the row (k, `min_count` > 0)
    (the order in which `translator/gen_tables.py` writes them), and `R k` holds of each such pair -/
def pairsAll (R : FillK → DRow → DRow → Bool) : List FillK → List DRow → Bool
  | [], [] => true
  | k :: ks, r0 :: r1 :: rows =>
    hasFill k r0 && !r0.mcPos && hasFill k r1 && r1.mcPos && R k r0 r1 && pairsAll R ks rows
  | _, _ => false

theorem pairsAll_find {R : FillK → DRow → DRow → Bool} {ks : List FillK} {rows : List DRow}
    (h : pairsAll R ks rows = true) {k : FillK} (hk : k ∈ ks) :
    ∃ r0 r1, rows.find? (fun r => r.fill = k && r.mcPos = false) = some r0 ∧
      rows.find? (fun r => r.fill = k && r.mcPos = true) = some r1 ∧ R k r0 r1 = true := by
  induction ks generalizing rows with
  | nil => cases hk
  | cons k' ks ih =>
    match rows, h with
    | r0 :: r1 :: rows, h =>
      simp only [pairsAll, hasFill, Bool.and_eq_true, FillK.beq_ctorIdx, Bool.not_eq_true'] at h
      obtain ⟨⟨⟨⟨⟨f0, m0⟩, f1⟩, m1⟩, hR⟩, hrest⟩ := h
      by_cases hkk : k' = k
      · subst hkk
        exact ⟨r0, r1, by simp [f0, m0], by simp [f0, m0, f1, m1], hR⟩
      · obtain ⟨a, b, ha, hb, hab⟩ := ih hrest ((List.mem_cons.mp hk).resolve_left (Ne.symm hkk))
        exact ⟨a, b, by simpa [f0, f1, hkk] using ha, by simpa [f0, f1, hkk] using hb, hab⟩

/-- the cells that read the pair `r0` = row (k, `min_count` = 0), `r1` = row (k, `min_count` > 0): (k, false) reads `r0`;
    `r1` is read by (k, true) unless `effFill` sends that cell to another fill, and by (unset, true) when `effFill`
    sends it here (nansum / nanprod: no fill and a positive `min_count` act as a NaN fill).
    `C k k' r`: the check of a cell with fill `k` on its row `r`, whose fill is `k' = effFill f k mc`. -/
def readersOk (C : FillK → FillK → DRow → Bool) (f : Func) (k : FillK) (r0 r1 : DRow) : Bool :=
  C k k r0 && (!(effFill f k true == k) || C k k r1) && (k == .unset || !(effFill f .unset true == k) || C .unset k r1)

theorem effFill_eq_or (f : Func) (k : FillK) (mc : Bool) : effFill f k mc = k ∨ (k = .unset ∧ mc = true) := by
  unfold effFill
  split
  · rename_i h
    simp only [Bool.and_eq_true, decide_eq_true_eq] at h
    exact .inr ⟨h.2, h.1.1⟩
  · exact .inl rfl

theorem cell_of_pairsAll {C : FillK → FillK → DRow → Bool} {R : FillK → DRow → DRow → Bool} {f : Func}
    {rows : List DRow} (hR : ∀ k r0 r1, R k r0 r1 = true → readersOk C f k r0 r1 = true)
    (h : pairsAll R FillK.all rows = true) (k : FillK) (mc : Bool) :
    ∃ r, rows.find? (fun r => r.fill = effFill f k mc && r.mcPos = mc) = some r ∧
      C k (effFill f k mc) r = true := by
  obtain ⟨r0, r1, h0, h1, hr⟩ := pairsAll_find h (fill_mem (effFill f k mc))
  have hr := hR _ _ _ hr
  simp only [readersOk, Bool.and_eq_true, Bool.or_eq_true, Bool.not_eq_true', beq_eq_false_iff_ne, beq_iff_eq] at hr
  obtain ⟨⟨c0, c1⟩, c2⟩ := hr
  -- the three readers of `readersOk`: (k, false) reads `r0`; (k, true) reads `r1`; (unset, true) sent here by `effFill`
  rcases effFill_eq_or f k mc with e | ⟨rfl, rfl⟩
  · rw [e] at h0 h1 c0 c1 ⊢
    cases mc
    · exact ⟨r0, h0, c0⟩
    · exact ⟨r1, h1, c1.resolve_left (fun hne => hne e)⟩
  · refine ⟨r1, h1, ?_⟩
    by_cases e : effFill f .unset true = .unset
    · rw [e] at c1 ⊢
      exact c1.resolve_left (fun hne => hne e)
    · exact c2.resolve_left fun h => h.elim e fun hne => hne rfl

/-- the rows of the table behind the cells (f, d, u, ·, ·) for the engines other than "flox" -/
def cellRows (f : Func) (d : DType) (u : UserD) : List DRow := dtypeRowsOf f (entryDtype f d false) u

/-- `g d`, with `d` reduced to a constructor before `g` sees it: the kernel then meets the closed terms
    `holdFill promote .i8 .nan`, … (14 × 5 in the whole sweep) and reduces each of them once -/
def withDType (d : DType) (g : DType → α) : α :=
  match d with
  | .bool => g .bool | .i8 => g .i8 | .i16 => g .i16 | .i32 => g .i32 | .i64 => g .i64 | .u8 => g .u8 | .u16 => g .u16
  | .u32 => g .u32 | .u64 => g .u64 | .f32 => g .f32 | .f64 => g .f64 | .M8 => g .M8 | .m8 => g .m8 | .obj => g .obj

theorem withDType_eq (d : DType) (g : DType → α) : withDType d g = g d := by cases d <;> rfl

/-- the dtype the convention starts from: the requested one, else NumPy's default for the reduction -/
def baseDtype (f : Func) (d : DType) (u : UserD) : DType := u.toDType?.getD (npBase f d)

theorem spec_eq (f : Func) (d : DType) (u : UserD) (k : FillK) : spec f d u k = holdFill promote (baseDtype f d u) k := rfl

def intInput (d : DType) : Bool := d == .bool || d.isInt

theorem intInput_of {d : DType} (h : d = .bool ∨ d.isInt = true) : intInput d = true := by
  rcases h with rfl | h
  · rfl
  · simp [intInput, h]

/-- the cell is inside NumPy's domain and not refused at entry: the model's dtype has to be the convention's -/
def conventionAsked (f : Func) (d : DType) (u : UserD) (k : FillK) : Bool :=
  inDomain f d u k && !argFloatRefused f u

/-- integer input accumulated by sums: without `dtype=` every reduction is looked at, with `dtype=` the additive and the
    floating ones -/
def widthAsked (f : Func) (d : DType) (u : UserD) : Bool :=
  intInput d && (u == .unset || f.family == .additive || f.family == .floating)

/-- a NaN fill on something `maybe_promote` knows how to widen -/
def reindexAsked (d : DType) (k : FillK) : Bool := k == .nan && !d.isDatetimeLike

/-- integer and floating input takes no part in the special cases at entry and exit: NumPy's domain is everything, there
    is no recorded deviation and no exit cast -/
def plainInput : DType → Bool
  | .bool | .M8 | .m8 | .obj => false
  | _ => true

/-- where the convention is asked, the model's dtype is the convention's outside the recorded deviation (`b` is
    `baseDtype f d u`, `k'` the fill after `effFill`).  The short form for plain input comes first: it covers three
    quarters of the cells, and the kernel then never unfolds `inDomain`, `knownDeviation` and `exitDtype` for them. -/
def conventionOk (f : Func) (d : DType) (u : UserD) (b : DType) (k k' : FillK) (init : DInit) : Bool :=
  if plainInput d then argFloatRefused f u || holdFill promote b k' == some init.final
  else !(conventionAsked f d u k) || knownDeviation f d u k ||
    holdFill promote b k' == some (exitDtype f d u k false init.final)

theorem conventionOk_eq (f : Func) (d : DType) (u : UserD) (b : DType) (k k' : FillK) (init : DInit) :
    conventionOk f d u b k k' init = (!(conventionAsked f d u k) || knownDeviation f d u k ||
      holdFill promote b k' == some (exitDtype f d u k false init.final)) := by
  cases d <;>
    simp [conventionOk, plainInput, conventionAsked, inDomain, knownDeviation, boolModeDeviation, exitDtype, viewed,
      boolAsInt, DType.isDatetimeLike]

/-- everything that accumulates does so in a 64-bit dtype: the dtype handed to the eager kernel of sum / prod / mean /
    var / std / median / quantile and every sum-like intermediate -/
def wideOk (f : Func) (init : DInit) : Bool :=
  (init.inter.all fun p => !(sumLike p.1) || wide p.2) &&
    (!(accumulates f) || (wide init.final && init.numpy.head? == some init.final))

theorem not_or_eq_true_iff {a b : Bool} : (!a || b) = true ↔ (a = true → b = true) := by cases a <;> simp

theorem wideOk_iff {f : Func} {init : DInit} : wideOk f init = true ↔
    (∀ p ∈ init.inter, sumLike p.1 = true → wide p.2 = true) ∧
    (accumulates f = true → wide init.final = true ∧ init.numpy.head? = some init.final) := by
  simp only [wideOk, Bool.and_eq_true, List.all_eq_true, not_or_eq_true_iff, beq_iff_eq]

/-- the accumulators are the (final) dtype or wider: never the narrow integer input dtype -/
def wideUserOk (init : DInit) : Bool := init.inter.all fun p => !(sumLike p.1) || (p.2 == init.final || wide p.2)

theorem wideUserOk_iff {init : DInit} : wideUserOk init = true ↔
    ∀ p ∈ init.inter, sumLike p.1 = true → (p.2 = init.final ∨ wide p.2 = true) := by
  simp only [wideUserOk, List.all_eq_true, not_or_eq_true_iff]
  simp only [Bool.or_eq_true, beq_iff_eq]

/-- the final reindex in `groupby_reduce` (`reindex_` → `maybe_promote` when the fill is NaN) cannot change a dtype
    that was already widened for a NaN fill -/
def reindexOk (init : DInit) : Bool :=
  (floxMaybePromote.find? fun r => r.1 == init.final).map (·.2) == some init.final

/-- what a cell (f, d, u, k, ·) asks of the row it reads; a row on which `_initialize_aggregation` raised is accepted
    only where nothing is asked (there the dtype logic refuses by passing the error on) -/
def cellOk (f : Func) (d : DType) (u : UserD) (b : DType) (k k' : FillK) (r : DRow) : Bool :=
  match r.res with
  | some init =>
    conventionOk f d u b k k' init &&
    (!(widthAsked f d u) || (if u == .unset then wideOk f init else wideUserOk init)) &&
    (!(reindexAsked d k) || reindexOk init)
  | none => !(conventionAsked f d u k) && !(widthAsked f d u) && !(reindexAsked d k)

def sameFinal : Option DInit → Option DInit → Bool
  | some a, some b => a.final == b.final
  | none, none => true
  | _, _ => false

theorem sameFinal_iff {a b : Option DInit} : sameFinal a b = true ↔ a.map (·.final) = b.map (·.final) := by
  cases a <;> cases b <;> simp [sameFinal]

/-- `min_count` does not change the final dtype of a row, except that of nansum / nanprod without a fill, which no cell
    with a positive `min_count` reads (see `readersOk`) -/
def minCountOk (f : Func) (k : FillK) (r0 r1 : DRow) : Bool :=
  ((f == .nansum || f == .nanprod) && k == .unset) || sameFinal r0.res r1.res

def pairOk (f : Func) (d : DType) (u : UserD) (b : DType) (k : FillK) (r0 r1 : DRow) : Bool :=
  readersOk (cellOk f d u b) f k r0 r1 && minCountOk f k r0 r1

/-- one kernel-checked pass over the rows the cells read -/
theorem table_ok :
    (Func.all.all fun f => DType.inputs.all fun d => UserD.all.all fun u => withDType (baseDtype f d u) fun b =>
      pairsAll (pairOk f d u b) FillK.all (cellRows f d u)) = true := by decide +kernel

theorem rows_ok (f : Func) {d : DType} (hd : d ≠ .obj) (u : UserD) :
    pairsAll (pairOk f d u (baseDtype f d u)) FillK.all (cellRows f d u) = true := by
  have h := table_ok
  simp only [List.all_eq_true, withDType_eq] at h
  exact h f (func_mem f) d (input_mem hd) u (user_mem u)

theorem cell_ok (f : Func) {d : DType} (hd : d ≠ .obj) (u : UserD) (k : FillK) (mc : Bool) :
    ∃ r, cellRow dtypeRowsOf f d u k mc false = some r ∧
      cellOk f d u (baseDtype f d u) k (effFill f k mc) r = true :=
  cell_of_pairsAll (C := cellOk f d u (baseDtype f d u)) (fun _ _ _ h => (Bool.and_eq_true_iff.mp h).1)
    (rows_ok f hd u) k mc

theorem entryDtype_obj (f : Func) (e : Bool) : entryDtype f .obj e = .obj := by
  simp [entryDtype, viewed, boolAsInt, DType.isDatetimeLike]

theorem findDRow_obj (f : Func) (u : UserD) (k : FillK) (mc : Bool) : findDRow dtypeRowsOf f .obj u k mc = none := by
  cases f <;> rfl

theorem ne_obj_of_int {d : DType} (h : d = .bool ∨ d.isInt = true) : d ≠ .obj := by
  rintro rfl
  rcases h with h | h <;> cases h

theorem model_convention {f : Func} {d : DType} {u : UserD} {k : FillK} (mc e : Bool)
    (hdom : inDomain f d u k = true) (harg : argFloatRefused f u = false) :
    ∃ t, model f d u k mc e = .ok t ∧
      (knownDeviation f d u k = true ∨ spec f d u (effFill f k mc) = some t) := by
  rw [model_engine]
  have hd : d ≠ .obj := fun hd => by simp [inDomain, hd] at hdom
  obtain ⟨r, hr, hc⟩ := cell_ok f hd u k mc
  have hask : conventionAsked f d u k = true := by simp [conventionAsked, hdom, harg]
  unfold cellOk at hc
  cases hi : r.res with
  | none => simp [hi, hask] at hc
  | some init =>
    rw [hi] at hc
    simp only [conventionOk_eq, hask, Bool.not_true, Bool.false_or, Bool.and_eq_true] at hc
    refine ⟨exitDtype f d u k false init.final, ?_, by simpa [← spec_eq] using hc.1.1⟩
    simp only [model, apiDtype_eq, harg, hr, hi, Bool.false_eq_true, if_false]

theorem init_ok (f : Func) {d : DType} (hd : d ≠ .obj) (u : UserD) (k : FillK) (mc : Bool) {e : Bool} {init : DInit}
    (h : apiInit dtypeRowsOf f d u k mc e = some init) :
    (widthAsked f d u = true → (if u == .unset then wideOk f init else wideUserOk init) = true) ∧
    (reindexAsked d k = true → reindexOk init = true) := by
  obtain ⟨r, hr, hc⟩ := cell_ok f hd u k mc
  rw [apiInit_engine, apiInit_eq, hr] at h
  simp only [cellOk, show r.res = some init from h, Bool.and_eq_true, Bool.or_eq_true, Bool.not_eq_true'] at hc
  exact ⟨fun ha => hc.1.2.resolve_left (by simp [ha]), fun ha => hc.2.resolve_left (by simp [ha])⟩

theorem effFill_eq_self {f : Func} {k : FillK} (h : ¬((f = .nansum ∨ f = .nanprod) ∧ k = .unset)) (mc : Bool) :
    effFill f k mc = k := by
  simp only [effFill, Bool.and_eq_true, Bool.or_eq_true, decide_eq_true_eq]
  exact if_neg fun hc => h ⟨hc.1.2, hc.2⟩

theorem modelDtype_minCount (f : Func) (d : DType) (u : UserD) (k : FillK) (e : Bool)
    (h : ¬((f = .nansum ∨ f = .nanprod) ∧ k = .unset)) :
    modelDtype f d u k true e = modelDtype f d u k false e := by
  have hrows : ((cellRow dtypeRowsOf f d u k true false).bind (·.res)).map (·.final) =
      ((cellRow dtypeRowsOf f d u k false false).bind (·.res)).map (·.final) := by
    simp only [cellRow, effFill_eq_self h]
    by_cases hd : d = .obj
    · rw [hd, entryDtype_obj, findDRow_obj, findDRow_obj]
    · obtain ⟨r0, r1, h0, h1, hp⟩ := pairsAll_find (rows_ok f hd u) (fill_mem k)
      have hm := (Bool.and_eq_true_iff.mp hp).2
      simp only [minCountOk, Bool.or_eq_true, Bool.and_eq_true, beq_iff_eq, sameFinal_iff] at hm
      rcases hm with hm | hm
      · exact absurd hm h
      · unfold cellRows at h0 h1
        simp only [findDRow, h0, h1]
        exact hm.symm
  rw [modelDtype_engine f d u k true, modelDtype_engine f d u k false]
  simp only [modelDtype_eq, hrows]

/-- the model's own notion of "this block holds no labelled element" (`empty = np.all(props.nanmask)`) -/
def blockEmpty (keys : List Key) (sort : Bool) : Bool := (factorizeKeys keys none sort).2.all (· == -1)

/-- what `chunk_reduce` returns as groups for one block when it is not reindexed: the block's distinct labels
    (sorted / first appearance), or the single NaN group when nothing is labelled -/
theorem chunkReduce_groups_none (eng : Eng) (ks : List Kernel) (fills : List Val) (keys : List Key) (vals : List Val)
    (sort : Bool) :
    (chunkReduce eng ks fills keys vals none sort).groups =
      if blockEmpty keys sort then [none]
      else ((if sort then uniqSorted (presentKeys keys) else uniqFirst (presentKeys keys))).map some := by
  unfold chunkReduce blockEmpty factorizeKeys
  simp only

end Flox.DtypeProofs
