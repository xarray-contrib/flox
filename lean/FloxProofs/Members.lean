/-
  Lemmas about `members` (the ordered member list of one group) and about the segments of a chunked array
  (`catC`, `catV`, `Aligned`).  The few facts about plain lists that these need stand here as well, next to their
  first use.
-/
import FloxModel.Kernels

namespace Flox

@[simp] theorem members_nil_left (g : Int) (vs : List Val) : members g [] vs = [] := by
  simp [members]

@[simp] theorem members_nil_right (g : Int) (cs : List Int) : members g cs [] = [] := by
  cases cs <;> simp [members]

@[simp] theorem members_cons (g c : Int) (cs : List Int) (v : Val) (vs : List Val) :
    members g (c :: cs) (v :: vs) = if c = g then v :: members g cs vs else members g cs vs := by
  simp [members]

/-- no length hypothesis: both sides stop at the shorter list -/
theorem members_eq_filter (g : Int) (codes : List Int) (vals : List Val) :
    members g codes vals = ((codes.zip vals).filter (fun p => p.1 = g)).map (·.2) := by
  induction codes generalizing vals with
  | nil => simp
  | cons c cs ih =>
    cases vals with
    | nil => simp
    | cons v vs =>
      simp only [List.zip_cons_cons, List.filter_cons, members_cons]
      by_cases hc : c = g <;> simp [hc, ih]

theorem filter_zip_map_left {α β γ} [DecidableEq α] [DecidableEq β] (f : α → β) (a : α) (b : β) (l : List α)
    (vs : List γ) (h : ∀ x ∈ l, (f x = b ↔ x = a)) :
    (((l.map f).zip vs).filter (fun p => p.1 = b)).map (·.2) = ((l.zip vs).filter (fun p => p.1 = a)).map (·.2) := by
  rw [List.zip_map_left, List.filter_map, List.map_map]
  refine congrArg (List.map _) (List.filter_congr fun p hp => ?_)
  simp only [Function.comp, Prod.map_fst, decide_eq_decide]
  exact h p.1 (List.of_mem_zip hp).1

theorem members_append (g : Int) (c₁ c₂ : List Int) (v₁ v₂ : List Val) (h : c₁.length = v₁.length) :
    members g (c₁ ++ c₂) (v₁ ++ v₂) = members g c₁ v₁ ++ members g c₂ v₂ := by
  simp only [members_eq_filter, List.zip_append h, List.filter_append, List.map_append]

theorem members_skip (g c : Int) (cs : List Int) (v : Val) (vs : List Val) (h : c ≠ g) :
    members g (c :: cs) (v :: vs) = members g cs vs := by
  simp [h]

theorem members_map (f : Val → Val) (g : Int) (codes : List Int) (vals : List Val) :
    members g codes (vals.map f) = (members g codes vals).map f := by
  simp only [members_eq_filter, List.zip_map_right, List.filter_map, List.map_map]
  rfl

theorem members_relabel (g g' : Int) (f : Int → Int) (codes : List Int) (vals : List Val)
    (h : ∀ c ∈ codes, (f c = g' ↔ c = g)) :
    members g' (codes.map f) vals = members g codes vals := by
  simp only [members_eq_filter]
  exact filter_zip_map_left f g g' codes vals h

/-- `factorize_` moves the missing-label code `-1` to `nan_sentinel = n`; the groups below `n` do not see it -/
theorem members_bump (g n : Nat) (hg : g < n) (codes : List Int) (vals : List Val) :
    members (Int.ofNat g) (codes.map fun c => if c == -1 then (n : Int) else c) vals
      = members (Int.ofNat g) codes vals := by
  apply members_relabel (Int.ofNat g) (Int.ofNat g)
  intro c _
  by_cases e : c = -1
  · subst e
    simp only [BEq.rfl, if_true, Int.ofNat_eq_natCast]
    omega
  · simp [e]

theorem members_eq_nil_of_ne (g : Int) (codes : List Int) (vals : List Val) (h : ∀ c ∈ codes, c ≠ g) :
    members g codes vals = [] := by
  rw [members_eq_filter, List.map_eq_nil_iff, List.filter_eq_nil_iff]
  exact fun p hp e => h _ (List.of_mem_zip hp).1 (of_decide_eq_true e)

theorem members_eq_nil_of_not_mem (g : Int) (cs : List Int) (vs : List Val) (h : g ∉ cs) : members g cs vs = [] :=
  members_eq_nil_of_ne g cs vs (fun _ hc e => h (e ▸ hc))

theorem mem_of_members_ne_nil (g : Int) (cs : List Int) (vs : List Val) (h : members g cs vs ≠ []) : g ∈ cs :=
  Classical.byContradiction fun hn => h (members_eq_nil_of_not_mem g cs vs hn)

theorem members_ne_nil_of_mem (g : Int) (codes : List Int) (vals : List Val)
    (hlen : codes.length ≤ vals.length) (hg : g ∈ codes) : members g codes vals ≠ [] := by
  induction codes generalizing vals with
  | nil => simp at hg
  | cons c cs ih =>
    cases vals with
    | nil => simp at hlen
    | cons v vs =>
      simp only [members_cons]
      by_cases e : c = g
      · simp [e]
      · simp only [e, if_false]
        apply ih vs (by simpa using hlen)
        rcases List.mem_cons.mp hg with h | h
        · exact absurd h.symm e
        · exact h

/-- a list of (codes, values) segments, e.g. the blocks of a chunked array -/
abbrev Segs := List (List Int × List Val)

def catC (segs : Segs) : List Int := (segs.map (·.1)).flatten
def catV (segs : Segs) : List Val := (segs.map (·.2)).flatten

def Aligned (segs : Segs) : Prop := ∀ p ∈ segs, p.1.length = p.2.length

@[simp] theorem catC_nil : catC [] = [] := rfl
@[simp] theorem catV_nil : catV [] = [] := rfl
@[simp] theorem catC_cons (p : List Int × List Val) (segs : Segs) : catC (p :: segs) = p.1 ++ catC segs := by
  simp [catC]
@[simp] theorem catV_cons (p : List Int × List Val) (segs : Segs) : catV (p :: segs) = p.2 ++ catV segs := by
  simp [catV]

theorem mem_catC (c : Int) (segs : Segs) : c ∈ catC segs ↔ ∃ p ∈ segs, c ∈ p.1 := by
  rw [catC, ← List.flatMap_def]; exact List.mem_flatMap

theorem flatten_map_flatten {γ δ} (f : γ → List δ) (L : List (List γ)) :
    (L.flatten.map f).flatten = (L.map fun s => (s.map f).flatten).flatten := by
  rw [List.map_flatten, List.flatten_flatten, List.map_map]; rfl

theorem map_range_eq_map {α β} {n : Nat} {l : List α} {f : Nat → β} {g : α → β} (hn : n = l.length)
    (h : ∀ i (hi : i < l.length), f i = g l[i]) : (List.range n).map f = l.map g := by
  subst hn
  apply List.ext_getElem (by simp)
  intro i h1 _
  simpa using h i (by simpa using h1)

theorem map_getD_range {α} (l : List α) (d : α) : (List.range l.length).map (l.getD · d) = l :=
  (map_range_eq_map rfl fun i hi => by simp [hi]).trans (List.map_id l)

theorem catC_flatten (L : List Segs) : catC L.flatten = (L.map catC).flatten := flatten_map_flatten _ L

theorem catV_flatten (L : List Segs) : catV L.flatten = (L.map catV).flatten := flatten_map_flatten _ L

theorem Aligned.tail {p : List Int × List Val} {segs : Segs} (h : Aligned (p :: segs)) : Aligned segs :=
  fun q hq => h q (by simp [hq])

theorem Aligned.cat_length {segs : Segs} (h : Aligned segs) : (catC segs).length = (catV segs).length := by
  induction segs with
  | nil => rfl
  | cons p segs ih =>
    simp only [catC_cons, catV_cons, List.length_append, ih h.tail, h p (by simp)]

theorem members_cat (g : Int) (segs : Segs) (h : Aligned segs) :
    members g (catC segs) (catV segs) = (segs.map fun p => members g p.1 p.2).flatten := by
  induction segs with
  | nil => simp
  | cons p segs ih =>
    simp only [catC_cons, catV_cons, List.map_cons, List.flatten_cons]
    rw [members_append g _ _ _ _ (h p (by simp)), ih h.tail]

theorem flatMap_congr {α β} {l : List α} {f g : α → List β} (h : ∀ x ∈ l, f x = g x) :
    l.flatMap f = l.flatMap g := by
  rw [List.flatMap_def, List.flatMap_def, List.map_congr_left h]

theorem range_flatMap_block (P : Nat) : ∀ d : Nat,
    (List.range d).flatMap (fun i => (List.range P).map fun j => i * P + j) = List.range (d * P)
  | 0 => by simp
  | d + 1 => by
    rw [List.range_succ, List.flatMap_append, range_flatMap_block P d, List.flatMap_singleton, Nat.succ_mul,
      List.range_add]

end Flox
