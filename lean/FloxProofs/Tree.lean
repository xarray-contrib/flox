/-
  Independence of the reduction-tree shape (C03).

  A `PTree` is an arbitrary finitely-branching tree (every node has at least one child) whose leaves carry the
  member lists of one group inside the blocks, left to right.  Evaluating the tree applies the chunk stage
  (`blockVal k f`) at the leaves and `_simple_combine` (`combineVal c`) at every inner node.
  `PTree.eval_eq` shows that for every built-in column this equals `blockVal k f` of the concatenated
  members: the result does not depend on the bracketing / `split_every` / depth of the tree.

  This is a statement about one slot of one column over arbitrary trees, used by C03 and C04 only.  The proofs about the
  pipeline do not go through it: the model's own tree, `treeReduce` on whole intermediates, is handled by
  `treeReduce_inv` (TreeReduce.lean).
-/
import FloxProofs.Columns

namespace Flox

mutual
inductive PTree where
  | leaf (p : List Val)
  | node (ts : PForest)
inductive PForest where
  | one (t : PTree)
  | cons (t : PTree) (ts : PForest)
end

mutual
def PTree.leaves : PTree → List Val
  | .leaf p => p
  | .node ts => ts.leaves
def PForest.leaves : PForest → List Val
  | .one t => t.leaves
  | .cons t ts => t.leaves ++ ts.leaves
end

def PForest.parts : PForest → List (List Val)
  | .one t => [t.leaves]
  | .cons t ts => t.leaves :: ts.parts

mutual
def PTree.eval (k c : Kernel) (f : Val) : PTree → Val
  | .leaf p => blockVal k f p
  | .node ts => combineVal c (ts.evals k c f)
def PForest.evals (k c : Kernel) (f : Val) : PForest → List Val
  | .one t => [t.eval k c f]
  | .cons t ts => t.eval k c f :: ts.evals k c f
end

theorem PForest.parts_ne_nil (ts : PForest) : ts.parts ≠ [] := by
  cases ts <;> simp [PForest.parts]

theorem PForest.flatten_parts (ts : PForest) : ts.parts.flatten = ts.leaves := by
  induction ts using PForest.rec (motive_1 := fun _ => True) with
  | leaf _ => trivial
  | node _ _ => trivial
  | one t _ => simp [PForest.parts, PForest.leaves]
  | cons t ts _ ih => simp [PForest.parts, PForest.leaves, ih]

mutual
theorem PTree.eval_eq (k c : Kernel) (f : Val) (h : (k, c, f) ∈ floatColumns) :
    (t : PTree) → t.eval k c f = blockVal k f t.leaves
  | .leaf p => by simp [PTree.eval, PTree.leaves]
  | .node ts => by
    rw [PTree.eval, PForest.evals_eq k c f h ts, combine_parts k c f h _ ts.parts_ne_nil,
      PForest.flatten_parts, PTree.leaves]
theorem PForest.evals_eq (k c : Kernel) (f : Val) (h : (k, c, f) ∈ floatColumns) :
    (ts : PForest) → ts.evals k c f = ts.parts.map (blockVal k f)
  | .one t => by simp [PForest.evals, PForest.parts, PTree.eval_eq k c f h t]
  | .cons t ts => by
    simp [PForest.evals, PForest.parts, PTree.eval_eq k c f h t, PForest.evals_eq k c f h ts]
end

theorem PTree.eval_congr (k c : Kernel) (f : Val) (h : (k, c, f) ∈ floatColumns)
    (t₁ t₂ : PTree) (hl : t₁.leaves = t₂.leaves) : t₁.eval k c f = t₂.eval k c f := by
  rw [PTree.eval_eq k c f h, PTree.eval_eq k c f h, hl]

theorem PTree.eval_eq_flat (k c : Kernel) (f : Val) (h : (k, c, f) ∈ floatColumns)
    (t : PTree) (parts : List (List Val)) (hne : parts ≠ []) (hl : t.leaves = parts.flatten) :
    t.eval k c f = combineVal c (parts.map (blockVal k f)) := by
  rw [PTree.eval_eq k c f h, combine_parts k c f h parts hne, hl]

theorem PTree.eval_eq_single (k c : Kernel) (f : Val) (h : (k, c, f) ∈ floatColumns) (t : PTree) :
    t.eval k c f = (PTree.leaf t.leaves).eval k c f := by
  rw [PTree.eval_eq k c f h, PTree.eval]

section Examples
open Val

-- four blocks, one with a NaN inside, one absent, one all-NaN; bracketed as ((a b) c) d, as a (b (c d)) and flat
def exA : List Val := [fin 1, nan, fin (-2)]
def exB : List Val := []
def exC : List Val := [nan]
def exD : List Val := [fin 5, pinf]

def exLeft : PTree :=
  .node (.cons (.node (.cons (.node (.cons (.leaf exA) (.one (.leaf exB)))) (.one (.leaf exC))))
    (.one (.leaf exD)))
def exRight : PTree :=
  .node (.cons (.leaf exA) (.one (.node (.cons (.leaf exB) (.one (.node (.cons (.leaf exC)
    (.one (.leaf exD)))))))))
def exFlat : PTree :=
  .node (.cons (.leaf exA) (.cons (.leaf exB) (.cons (.leaf exC) (.one (.leaf exD)))))

example : exLeft.leaves = exRight.leaves := by decide +kernel
example : exLeft.leaves = [fin 1, nan, fin (-2), nan, fin 5, pinf] := by decide +kernel

example : ∀ t ∈ floatColumns,
    exLeft.eval t.1 t.2.1 t.2.2 = exRight.eval t.1 t.2.1 t.2.2 ∧
    exLeft.eval t.1 t.2.1 t.2.2 = exFlat.eval t.1 t.2.1 t.2.2 ∧
    exLeft.eval t.1 t.2.1 t.2.2 = blockVal t.1 t.2.2 exLeft.leaves := by
  decide +kernel

example : exLeft.eval .nansum .sum zero = pinf := by decide +kernel
example : exLeft.eval .nanlen .sum zero = fin 4 := by decide +kernel
example : exLeft.eval .nanmin .nanmin pinf = fin (-2) := by decide +kernel
example : exRight.eval .nanlast .nanlast nan = pinf := by decide +kernel
example : exRight.eval .sum .sum zero = nan := by decide +kernel

example : exLeft.eval .nanmax .nanmax ninf = exRight.eval .nanmax .nanmax ninf :=
  PTree.eval_congr _ _ _ (by decide +kernel) _ _ (by decide +kernel)

end Examples

end Flox
