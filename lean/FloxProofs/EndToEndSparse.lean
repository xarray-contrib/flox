/-
  The map-reduce plan without reindexing at the block stage (`.mapreduce false`, `reindex=False`) with the simple
  combine, end to end.  Every block is the sparse intermediate of its segment, over the keys `chunk_reduce` finds in it;
  the tree keeps that, so the combined intermediate is the sparse intermediate of the whole array over exactly the keys
  that occur; `_finalize_results` and the final reindex turn it into the specification, slot by slot.  The run on no
  block at all (`chunks = []`, hence no element) is treated apart.
-/
import FloxProofs.SparseTree
import FloxProofs.EndToEndFlox

namespace Flox

/-- the blocks of a chunked array, annotated with the groups `chunk_reduce` finds in them -/
def asegsOf (sort : Bool) (chunks : List Nat) (codes : List Int) (vals : List Val) : List ASeg :=
  (segsOf chunks codes vals).map fun p => (blockGroups sort p.1, p)

theorem asegsOf_segs (sort : Bool) (chunks : List Nat) (codes : List Int) (vals : List Val) :
    (asegsOf sort chunks codes vals).map (·.2) = segsOf chunks codes vals := by
  simp [asegsOf, List.map_map, Function.comp_def]

theorem blockGroups_covers (sort : Bool) (p : List Int × List Val) : Covers (blockGroups sort p.1, p) := by
  intro c hc
  simp only at hc ⊢
  have hne : p.1 ≠ [] := List.ne_nil_of_mem hc
  simp only [blockGroups, BW.labelsOf, hne, if_false, List.mem_map, Option.some.injEq, exists_eq_right, Grp.mem_uniqOf]
  exact ⟨c, hc, rfl⟩

theorem blockGroups_exact (sort : Bool) (p : List Int × List Val) : Exact (blockGroups sort p.1, p) := by
  intro κ hκ
  simp only at hκ ⊢
  by_cases hne : p.1 = []
  · simp only [blockGroups, hne, if_true, List.mem_singleton] at hκ
    exact Or.inl ⟨hκ, hne⟩
  · simp only [blockGroups, BW.labelsOf, hne, if_false, List.mem_map, Grp.mem_uniqOf] at hκ
    obtain ⟨r, ⟨c, hc, rfl⟩, rfl⟩ := hκ
    exact Or.inr ⟨c, hc, rfl⟩

theorem asegsOf_good (sort : Bool) (chunks : List Nat) (codes : List Int) (vals : List Val)
    (hchunks : chunks ≠ []) (hsum : chunks.sum = codes.length) (hlen : codes.length = vals.length) :
    GoodSegs (asegsOf sort chunks codes vals) codes vals := by
  refine ⟨?_, ?_, ?_, ?_, ?_, ?_⟩
  · simpa [asegsOf] using segsOf_ne_nil chunks codes vals hchunks
  · rw [asegsOf_segs]; exact segsOf_aligned chunks codes vals hlen
  · intro a ha
    obtain ⟨p, _, rfl⟩ := List.mem_map.mp ha
    exact blockGroups_covers sort p
  · intro a ha
    obtain ⟨p, _, rfl⟩ := List.mem_map.mp ha
    exact blockGroups_exact sort p
  · rw [asegsOf_segs]; exact segsOf_catC chunks codes vals (by omega)
  · rw [asegsOf_segs]; exact segsOf_catV chunks codes vals (by omega)

theorem blockStage_sparse_codes (c : Call) (chunks : List Nat) (codes : List Int) (vals : List Val)
    (heng : c.eng = .npg) (harg : c.R.isArg = false)
    (hnoarg : ∀ k ∈ c.R.chunk, isArgKernel k = false)
    (hz : ∀ p ∈ c.R.chunk.zip c.R.interFills, (p.1 = .nanlen ∨ p.1 = .nansumsq) → p.2 = Val.zero) :
    blockStage c false chunks (codeKeys codes) vals = (asegsOf c.sort chunks codes vals).map (spNode c.R) := by
  rw [blockStage_eq c false chunks _ vals harg]
  unfold codeKeys asegsOf segsOf
  rw [splitBy_map, List.zip_map_left, List.map_map, List.map_map, heng]
  apply List.map_congr_left
  intro p _
  simp only [Function.comp, Prod.map_fst, Prod.map_snd, id]
  exact chunkReduce_sparse_codes _ _ _ _ _ hnoarg hz

theorem mapreduce_sparse_codes (R : Resolved) (s : Shape) (c : Call) (chunks : List Nat) (codes : List Int)
    (vals : List Val) (se : Nat)
    (hR : c.R = R) (heng : c.eng = .npg) (hs : s.Fits R) (hlen : codes.length = vals.length)
    (hchunks : chunks ≠ []) (hsum : chunks.sum = codes.length) :
    ∃ G : List Key, Covers (G, (codes, vals)) ∧ Exact (G, (codes, vals)) ∧ G ≠ [] ∧
      simpleCombine R false (treeReduce (simpleCombine R false) se (blockStage c false chunks (codeKeys codes) vals))
        = spInter R.chunk R.interFills G codes vals := by
  subst hR
  rw [blockStage_sparse_codes c chunks codes vals heng hs.isArg hs.chunk_noarg hs.chunk_zero]
  exact tree_spNodes c.R se hs.simpleOK _ codes vals (asegsOf_good c.sort chunks codes vals hchunks hsum hlen)

/-- With a count mask but without a user fill, `_finalize_results` raises as soon as any group of the combined
    intermediate is below `min_count` – including the group `-1` of the dropped elements, which is not requested.  The
    specification only raises for requested labels; so the dropped elements must not be masked.  When there is no
    element at all the only group is the NaN placeholder, which is masked; the specification then raises only if at
    least one label is requested. -/
def HDropped (R : Resolved) (n : Nat) (codes : List Int) (vals : List Val) : Prop :=
  R.minCount > 0 → R.userFill = none →
    (codes = [] → 0 < n) ∧
    (members (-1) codes vals = [] ∨ R.minCount ≤ Spec.validCount (members (-1) codes vals))

instance (R : Resolved) (n : Nat) (codes : List Int) (vals : List Val) : Decidable (HDropped R n codes vals) := by
  unfold HDropped; infer_instance

/-- the tail of the `reindex=False` map-reduce plan: `_finalize_results` (count mask over the present groups,
    reindex to `RangeIndex(n)` with the user fill) + final reindex = the specification, slot by slot -/
theorem finish_sparse {s : Shape} {R : Resolved} (hs : s.Fits R) (c : Call) (n : Nat) (G : List Key)
    (codes : List Int) (vals : List Val)
    (hn : c.ngroups = n) (hcodes : CodesOK codes n) (hlen : codes.length = vals.length)
    (hcov : Covers (G, (codes, vals))) (hex : Exact (G, (codes, vals))) (hG : G ≠ [])
    (H_dropped : HDropped R n codes vals) (H_minmax : HMinMax R s) :
    (match finalizeResults R (spInter R.chunk R.interFills G codes vals) (some (rangeKeys n)) false with
      | .error e => .error e
      | .ok (gs, vs) => finalReindex c false gs vs)
      = (List.range n).mapM fun (g : Nat) => specSlot R s.kernel (members (Int.ofNat g) codes vals) := by
  have hx : spInter R.chunk R.interFills G codes vals
      = { groups := G, cols := fcols R.chunk R.interFills G fun κ => Grp.membersK κ (codeKeys codes) vals } := by
    simp only [spInter, keyMembers_eq_membersK]
  rw [hx]
  refine (Grp.finish_keys c R n ⟨G, _⟩ codes vals (fun κ => s.mrVal (Grp.membersK κ (codeKeys codes) vals))
    hn hcodes hlen hG ?_ ?_ (finalize_shape_gen hs G _) (count_shape_gen hs G _) ?_).trans ?_
  · intro κ hκ
    rcases hex κ hκ with h | ⟨cd, hcd, rfl⟩
    · exact .inr h
    · exact .inl (List.mem_map_of_mem hcd)
  · intro κ hκ
    obtain ⟨cd, hcd, rfl⟩ := List.mem_map.mp hκ
    exact hcov cd hcd
  · intro hmc huf
    obtain ⟨h1, h2⟩ := H_dropped hmc huf
    exact ⟨h1, fun hcd => h2.resolve_left (members_ne_nil_of_mem (-1) codes vals (by omega) hcd)⟩
  · apply mapM_congr
    intro g _
    by_cases hm : members (Int.ofNat g) codes vals = []
    · rw [if_pos hm, hm, specSlot_nil]
    · rw [if_neg hm, Grp.membersK_codeKeys]
      exact mrSlot_eq_specSlot hs _ (Or.inr hm) H_minmax

theorem treeReduce_nil (f : List Inter → Inter) (k : Nat) : treeReduce f k [] = [] := rfl

theorem simpleCombine_false_nil (R : Resolved) :
    simpleCombine R false [] = { groups := [none], cols := R.combine.mapIdx fun _ k => [kEval k []] } := rfl

theorem finalize_nil_shape {s : Shape} {R : Resolved} (hs : s.Fits R) :
    ∃ v0 : Val, finalizeVals R (if R.minCount > 0 then (R.combine.mapIdx fun _ k => [kEval k []]).dropLast
        else R.combine.mapIdx fun _ k => [kEval k []]) = [v0] := by
  have hcols : (if R.minCount > 0 then (R.combine.mapIdx fun _ k => [kEval k []]).dropLast
      else R.combine.mapIdx fun _ k => [kEval k []]) = s.combine.mapIdx fun _ k => [kEval k []] := by
    rw [hs.combine, cntSuffix]
    by_cases hm : R.minCount > 0
    · rw [if_pos hm, if_pos hm, List.mapIdx_concat, List.dropLast_concat]
    · rw [if_neg hm, if_neg hm, List.append_nil]
  rw [hcols]
  have hfin := hs.fin
  cases s with
  | simple k c f =>
    have hf : R.finalize = "none" := by simpa [Shape.finalizeOK] using hfin
    exact ⟨_, (finalizeVals_none R _ hf).trans rfl⟩
  | mean b =>
    have hf : R.finalize = "mean" := by simpa [Shape.finalizeOK] using hfin
    exact ⟨_, (finalizeVals_mean R _ hf).trans rfl⟩
  | var b d =>
    have hf : R.finalize = "var" ∨ R.finalize = "std" := by simpa [Shape.finalizeOK] using hfin
    rcases hf with hf | hf
    · exact ⟨_, (finalizeVals_var R _ hf).trans rfl⟩
    · exact ⟨_, (finalizeVals_std R _ hf).trans rfl⟩

theorem count_nil_shape {s : Shape} {R : Resolved} (hs : s.Fits R) (hm : R.minCount > 0) :
    (R.combine.mapIdx fun _ k => [kEval k []]).getLastD [] = [countVal []] := by
  rw [hs.combine, cntSuffix, if_pos hm, List.mapIdx_append, List.getLastD_eq_getLast?, List.getLast?_append]
  rfl

/-- with no block at all (and hence no element) every requested label gets the specification's slot of no members:
    the user fill, or `ValueError` without one -/
theorem mapreduce_sparse_nochunks {s : Shape} {R : Resolved} (hs : s.Fits R) (c : Call) (hR : c.R = R) (n : Nat)
    (floatData : Bool) (hn : c.ngroups = n) (H_dropped : HDropped R n [] [])
    (hcombine : useGroupedCombine c floatData = false) :
    runKnown c (.mapreduce false) floatData [] (codeKeys []) []
      = (List.range n).mapM fun (g : Nat) => specSlot R s.kernel (members (Int.ofNat g) [] []) := by
  subst hR
  have hb : blockStage c false [] (codeKeys []) [] = [] := rfl
  rw [runKnown_mapreduce c false _ _ _ _ hcombine, hb, treeReduce_nil, simpleCombine_false_nil, hn]
  obtain ⟨v0, hv0⟩ := finalize_nil_shape hs
  refine (finish_groups c c.R n _ (fun _ => v0) (fun _ => countVal []) hn (by simp)
    (by simpa using hv0) (fun hm => by simpa using count_nil_shape hs hm) ?_).trans ?_
  · intro κ _ _ hs'
    obtain ⟨_, huf, hmc, _⟩ := maskedSlot_error c.R _ _ _ hs'
    exact ⟨0, (H_dropped hmc huf).1 rfl, by simp⟩
  · apply mapM_congr
    intro g _
    simp [specSlot_nil]

/-- Map-reduce without reindexing at the block stage (blocks carry only the groups they contain, the dropped code
    `-1` included; every `_simple_combine` reindexes to the union of its inputs' groups with the intermediate fills;
    `_finalize_results` reindexes to the requested labels with the user fill) = specification, for every chunking and
    every `split_every`.
    Compared with `mapreduce_dense_eq_spec` the hypothesis `H_absent` is not needed (an absent requested label gets the
    user fill, or raises when there is none – exactly the specification); `H_dropped` is needed instead. -/
theorem mapreduce_sparse_eq_spec (R : Resolved) (s : Shape) (c : Call) (n : Nat) (floatData : Bool)
    (chunks : List Nat) (codes : List Int) (vals : List Val)
    (hR : c.R = R) (heng : c.eng = .npg) (hn : c.ngroups = n) (_hknown : c.knownLabels = true)
    (hshape : R.shape? = some s) (hcodes : CodesOK codes n) (hlen : codes.length = vals.length)
    (H_dropped : HDropped R n codes vals)
    (H_minmax : HMinMax R s)
    (hsum : chunks.sum = codes.length)
    (hcombine : useGroupedCombine c floatData = false) :
    runKnown c (.mapreduce false) floatData chunks (codeKeys codes) vals = specResult s.kernel R codes vals n := by
  have hs := (R.shape?_eq_some_iff s).mp hshape
  by_cases hchunks : chunks = []
  · -- no block at all: then there is no element either
    subst hchunks
    have hc0 : codes = [] := List.length_eq_zero_iff.mp (by simpa using hsum.symm)
    subst hc0
    have hv0 : vals = [] := List.length_eq_zero_iff.mp (by simpa using hlen.symm)
    subst hv0
    rw [specResult_slots hs]
    exact mapreduce_sparse_nochunks hs c hR n floatData hn H_dropped hcombine
  · obtain ⟨G, hcov, hex, hG, hx⟩ :=
      mapreduce_sparse_codes R s c chunks codes vals c.splitEvery hR heng hs hlen hchunks hsum
    subst hR
    rw [runKnown_mapreduce c false _ _ _ _ hcombine, hx, hn, specResult_slots hs]
    exact finish_sparse hs c n G codes vals hn hcodes hlen hcov hex hG H_dropped H_minmax

theorem mapreduce_sparse_eq_dense (R : Resolved) (s : Shape) (c c' : Call) (n : Nat) (floatData : Bool)
    (chunks chunks' : List Nat) (codes : List Int) (vals : List Val)
    (hR : c.R = R) (heng : c.eng = .npg) (hn : c.ngroups = n)
    (hR' : c'.R = R) (heng' : c'.eng = .npg) (hn' : c'.ngroups = n)
    (hshape : R.shape? = some s) (hcodes : CodesOK codes n) (hlen : codes.length = vals.length)
    (H_absent : ∀ g : Nat, g < n → HAbsent R (members (Int.ofNat g) codes vals))
    (H_dropped : HDropped R n codes vals) (H_minmax : HMinMax R s)
    (hsum : chunks.sum = codes.length)
    (hchunks' : chunks' ≠ []) (hsum' : chunks'.sum = codes.length)
    (hcombine : useGroupedCombine c floatData = false) (hcombine' : useGroupedCombine c' floatData = false) :
    runKnown c (.mapreduce false) floatData chunks (codeKeys codes) vals
      = runKnown c' (.mapreduce true) floatData chunks' (codeKeys codes) vals := by
  rw [mapreduce_sparse_eq_spec R s c n floatData chunks codes vals hR heng hn (knownLabels_of_simpleCombine hcombine) hshape
      hcodes hlen H_dropped H_minmax hsum hcombine,
    mapreduce_dense_eq_spec R s c' n floatData chunks' codes vals hR' heng' hn' hshape hcodes hlen H_absent
      H_minmax hchunks' hsum' hcombine']

/-- `mapreduce_sparse_eq_spec` with flox's own engine -/
theorem mapreduce_sparse_eq_spec_flox (R : Resolved) (s : Shape) (c : Call) (n : Nat) (floatData : Bool)
    (chunks : List Nat) (codes : List Int) (vals : List Val)
    (hR : c.R = R) (heng : c.eng = .flox) (hn : c.ngroups = n)
    (hshape : R.shape? = some s) (hcodes : CodesOK codes n) (hlen : codes.length = vals.length)
    (H_dropped : HDropped R n codes vals)
    (H_minmax : HMinMax R s)
    (hsum : chunks.sum = codes.length)
    (hcombine : useGroupedCombine c floatData = false) :
    runKnown c (.mapreduce false) floatData chunks (codeKeys codes) vals = specResult s.kernel R codes vals n := by
  have hs := (R.shape?_eq_some_iff s).mp hshape
  subst hR
  rw [runKnown_mapreduce_flox c false floatData chunks (codeKeys codes) vals heng hs.isArg hs.chunk_floxAgrees
    hs.chunk_zero (by rw [codeKeys_length, hlen]) hcombine]
  exact mapreduce_sparse_eq_spec c.R s c.withNpg n floatData chunks codes vals rfl rfl hn
    (knownLabels_of_simpleCombine hcombine) hshape hcodes hlen H_dropped H_minmax hsum hcombine

end Flox
