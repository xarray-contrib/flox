/-
  The last stage of the plans that reduce units (blocks of `method="blockwise"`, cohorts of `method="cohorts"`) on
  their own: every unit returns (labels, one slot per label); the results are concatenated, sorted by label when
  `sort`, and `finalReindex` looks the requested labels `0..n-1` up in them.  `unitsTail_slots`: the result is
  `(List.range n).mapM S` as soon as the units' slots of a requested label are `S` of that label.
-/
import FloxProofs.Finish

namespace Flox

/-- `reindex_` looks a label up at its first position: what it finds is determined as soon as all pairs that carry a
    requested label agree with the slot `S` of that label. -/
theorem reindexCol_pairs {τ} (l : List (Key × Val)) (ts : List τ) (key : τ → Key) (fill : Option Val)
    (S : τ → Except String Val) (hl : l ≠ [])
    (hin : ∀ p ∈ l, ∀ t ∈ ts, p.1 = key t → S t = .ok p.2)
    (hout : ∀ t ∈ ts, (∀ p ∈ l, p.1 ≠ key t) → S t = optToExcept fill) :
    optToExcept (reindexCol (l.map (·.2)) (l.map (·.1)) (ts.map key) fill) = ts.mapM S := by
  have hle : l.map (·.1) ≠ [] := by simpa using hl
  by_cases hft : l.map (·.1) = ts.map key
  · rw [← hft, reindexCol_self _ _ _ hle]
    simp only [optToExcept]
    symm
    rw [mapM_except_eq_ok_iff, List.map_map]
    have hlen : ts.length = l.length := by simpa using (congrArg List.length hft).symm
    apply List.ext_getElem (by simpa using hlen)
    intro i h1 h2
    have hi : i < ts.length := by simpa using h1
    have hi' : i < l.length := hlen ▸ hi
    have hk : l[i].1 = key ts[i] := by simpa [hi, hi'] using congrArg (·[i]?) hft
    simpa using hin l[i] (List.getElem_mem hi') ts[i] (List.getElem_mem hi) hk
  · rw [reindexCol_lookup _ _ _ _ hle hft, mapM_option_toExcept, mapM_map]
    apply mapM_congr
    intro t ht
    cases hlk : lookupKey (key t) (l.map (·.1)) with
    | none =>
      have hno : key t ∉ l.map (·.1) := (lookupKey_eq_none_iff _ _).mp hlk
      exact (hout t ht fun p hp e => hno (List.mem_map.mpr ⟨p, hp, e⟩)).symm
    | some i =>
      obtain ⟨hi, hki⟩ := lookupKey_eq_some _ _ i hlk
      have hi' : i < l.length := by simpa using hi
      rw [hin l[i] (List.getElem_mem hi') t ht (by simpa using hki)]
      simp [optToExcept, hi']

theorem zip_map_fst_snd {α β} (l : List (α × β)) : (l.map (·.1)).zip (l.map (·.2)) = l :=
  (List.zip_of_prod rfl rfl).symm

/-- the (labels, values) handed to the final reindex -/
def gathered (sort : Bool) (gs : List Key) (vs : List Val) : List Key × List Val :=
  if sort then sortPairs gs vs else (gs, vs)

theorem gathered_perm (sort : Bool) (l : List (Key × Val)) :
    ∃ l' : List (Key × Val), l'.Perm l ∧ gathered sort (l.map (·.1)) (l.map (·.2)) = (l'.map (·.1), l'.map (·.2)) := by
  cases sort with
  | false => exact ⟨l, .refl l, rfl⟩
  | true =>
    simp only [gathered, if_true, sortPairs, zip_map_fst_snd]
    exact ⟨_, List.mergeSort_perm _ _, rfl⟩

/-- the pairs `finalReindex` looks the requested labels up in: those delivered, rearranged when `sort`, without
    the `-1` pairs when `bw` and there are several (`groups_ == -1` occurring in more than one block) -/
theorem finalReindex_pairs (c : Call) (bw sort : Bool) (l : List (Key × Val)) :
    ∃ l' : List (Key × Val), (∀ p ∈ l', p ∈ l) ∧ (∀ p ∈ l, p.1 ≠ some (-1) → p ∈ l') ∧
      finalReindex c bw (gathered sort (l.map (·.1)) (l.map (·.2))).1 (gathered sort (l.map (·.1)) (l.map (·.2))).2
        = optToExcept (reindexCol (l'.map (·.2)) (l'.map (·.1)) (rangeKeys c.ngroups) c.fillArg) := by
  obtain ⟨l₁, hperm, hl₁⟩ := gathered_perm sort l
  rw [hl₁]
  by_cases h : (bw && decide (((l₁.map (·.1)).filter (· = some (-1))).length > 1)) = true
  · refine ⟨l₁.filter fun p => p.1 ≠ some (-1), fun p hp => hperm.mem_iff.mp (List.mem_filter.mp hp).1,
      fun p hp hk => List.mem_filter.mpr ⟨hperm.mem_iff.mpr hp, by simpa using hk⟩, ?_⟩
    obtain ⟨rfl, hd⟩ := Bool.and_eq_true_iff.mp h
    rw [finalReindex_dropDup c _ _ (of_decide_eq_true hd), zip_map_fst_snd]
  · exact ⟨l₁, fun p hp => hperm.mem_iff.mp hp, fun p hp _ => hperm.mem_iff.mpr hp,
      finalReindex_eq c bw _ _ (by simpa using h)⟩

/-- the final reindex, slot by slot, on the delivered (label, value) pairs `l`.  `hempty`: when no pair carries a
    requested label the reindex may see an empty array, which it fills (NaN without a fill) instead of raising. -/
theorem finalReindex_slots (c : Call) (bw sort : Bool) (n : Nat) (hn : c.ngroups = n) (l : List (Key × Val))
    (S : Nat → Except String Val)
    (hin : ∀ p ∈ l, ∀ g < n, p.1 = some ((g : Nat) : Rat) → S g = .ok p.2)
    (hout : ∀ g < n, (∀ p ∈ l, p.1 ≠ some ((g : Nat) : Rat)) → S g = optToExcept c.fillArg)
    (hempty : (∀ p ∈ l, ∀ g < n, p.1 ≠ some ((g : Nat) : Rat)) → 0 < n → c.fillArg ≠ none) :
    finalReindex c bw (gathered sort (l.map (·.1)) (l.map (·.2))).1 (gathered sort (l.map (·.1)) (l.map (·.2))).2
      = (List.range n).mapM S := by
  obtain ⟨l', hsub, hsup, h⟩ := finalReindex_pairs c bw sort l
  rw [h, hn]
  have hkeep : ∀ p ∈ l, ∀ g : Nat, p.1 = some ((g : Nat) : Rat) → p ∈ l' :=
    fun p hp g e => hsup p hp (e ▸ natKey_ne_m1 g)
  by_cases hl : l' = []
  · subst hl
    have hno : ∀ p ∈ l, ∀ g < n, p.1 ≠ some ((g : Nat) : Rat) := fun p hp g _ e => by simpa using hkeep p hp g e
    rw [mapM_congr S (fun _ => optToExcept c.fillArg) _ fun g hg =>
      hout g (List.mem_range.mp hg) fun p hp => hno p hp g (List.mem_range.mp hg)]
    simp only [List.map_nil, reindexCol_nil, optToExcept]
    cases n with
    | zero => rfl
    | succ m =>
      obtain ⟨f, hf⟩ := Option.ne_none_iff_exists'.mp (hempty hno (Nat.succ_pos m))
      rw [hf, mapM_except_ok _ (fun _ => f) _ fun _ _ => rfl]
      simp [rangeKeys]
  · exact reindexCol_pairs l' (List.range n) _ c.fillArg S hl
      (fun p hp g hg e => hin p (hsub p hp) g (List.mem_range.mp hg) e)
      (fun g hg hall => hout g (List.mem_range.mp hg) fun p hp e => hall p (hkeep p hp g e) e)

/-- what a unit returns: the labels it announces and the slot of each -/
def unitOut (slot : Rat → Except String Val) (L : List Rat) : Except String (List Key × List Val) :=
  (L.mapM slot).map fun vs => (L.map some, vs)

theorem unitOut_ok (slot : Rat → Except String Val) (L : List Rat) (r : List Key × List Val)
    (h : unitOut slot L = .ok r) :
    r = (L.map some, L.map fun ℓ => exVal (slot ℓ)) ∧ ∀ ℓ ∈ L, slot ℓ = .ok (exVal (slot ℓ)) := by
  unfold unitOut at h
  cases hm : L.mapM slot with
  | error e => rw [hm] at h; cases h
  | ok vs =>
    rw [hm] at h
    obtain ⟨hvs, hok⟩ := mapM_except_eq_ok slot L vs hm
    exact ⟨by rw [← Except.ok.inj h, hvs], hok⟩

theorem unitOut_error (slot : Rat → Except String Val) (L : List Rat) (e : String) (h : unitOut slot L = .error e) :
    ∃ ℓ ∈ L, slot ℓ = .error e := by
  unfold unitOut at h
  cases hm : L.mapM slot with
  | error e' =>
    rw [hm] at h
    exact Except.error.inj h ▸ mapM_except_error_mem slot L e' hm
  | ok vs => rw [hm] at h; cases h

/-- the pairs the units deliver when none fails -/
def unitPairs {υ} (us : List υ) (L : υ → List Rat) (slot : υ → Rat → Except String Val) : List (Key × Val) :=
  us.flatMap fun u => (L u).map fun ℓ => ((some ℓ : Key), exVal (slot u ℓ))

theorem mem_unitPairs {υ} (us : List υ) (L : υ → List Rat) (slot : υ → Rat → Except String Val) (p : Key × Val) :
    p ∈ unitPairs us L slot ↔ ∃ u ∈ us, ∃ ℓ ∈ L u, p = (some ℓ, exVal (slot u ℓ)) := by
  simp only [unitPairs, List.mem_flatMap, List.mem_map, eq_comm]

theorem unitPairs_fst {υ} (us : List υ) (L : υ → List Rat) (slot : υ → Rat → Except String Val) :
    (unitPairs us L slot).map (·.1) = us.flatMap fun u => (L u).map some := by
  simp [unitPairs, List.map_flatMap, Function.comp_def]

theorem unitPairs_snd {υ} (us : List υ) (L : υ → List Rat) (slot : υ → Rat → Except String Val) :
    (unitPairs us L slot).map (·.2) = us.flatMap fun u => (L u).map fun ℓ => exVal (slot u ℓ) := by
  simp [unitPairs, List.map_flatMap, Function.comp_def]

/-- the last stage of `runKnown` for the plans `.cohorts` and `.blockwise false`, on the units' results `per`; `G`:
    where the run takes the concatenated labels from (the units' results, or the units' own label lists) -/
def unitsTail (c : Call) (bw : Bool) (G : List (List Key × List Val) → List Key)
    (per : List (Except String (List Key × List Val))) : Except String (List Val) :=
  match per.mapM id with
  | .error e => .error e
  | .ok rs =>
    finalReindex c bw (gathered c.sort (G rs) (rs.flatMap (·.2))).1 (gathered c.sort (G rs) (rs.flatMap (·.2))).2

/-- `S g` is the slot the whole run owes to the requested label `g`.  `hlab`: a label that is not requested (the `-1`
    of a block's dropped elements) must not fail; `hempty`: as in `finalReindex_slots`. -/
theorem unitsTail_slots {υ} (c : Call) (bw : Bool) (n : Nat) (hn : c.ngroups = n) (us : List υ) (L : υ → List Rat)
    (slot : υ → Rat → Except String Val) (S : Nat → Except String Val)
    (G : List (List Key × List Val) → List Key)
    (hG : G (us.map fun u => ((L u).map some, (L u).map fun ℓ => exVal (slot u ℓ)))
      = us.flatMap fun u => (L u).map some)
    (hS : ∀ g e, S g = .error e → e = "ValueError")
    (hlab : ∀ u ∈ us, ∀ ℓ ∈ L u, (∃ g < n, ℓ = ((g : Nat) : Rat)) ∨ ∃ v, slot u ℓ = .ok v)
    (hin : ∀ u ∈ us, ∀ g < n, ((g : Nat) : Rat) ∈ L u → slot u ((g : Nat) : Rat) = S g)
    (hout : ∀ g < n, (∀ u ∈ us, ((g : Nat) : Rat) ∉ L u) → S g = optToExcept c.fillArg)
    (hempty : (∀ u ∈ us, ∀ g < n, ((g : Nat) : Rat) ∉ L u) → 0 < n → c.fillArg ≠ none) :
    unitsTail c bw G (us.map fun u => unitOut (slot u) (L u)) = (List.range n).mapM S := by
  unfold unitsTail
  cases hper : (us.map fun u => unitOut (slot u) (L u)).mapM id with
  | error e =>
    rw [mapM_map] at hper
    obtain ⟨u, hu, hue⟩ := mapM_except_error_mem _ us e hper
    obtain ⟨ℓ, hℓ, he⟩ := unitOut_error _ _ e hue
    rcases hlab u hu ℓ hℓ with ⟨g, hg, rfl⟩ | ⟨v, hv⟩
    · rw [hin u hu g hg hℓ] at he
      have := hS g e he
      subst this
      exact (mapM_except_error_of_mem S _ "ValueError" (fun g _ => hS g) ⟨g, List.mem_range.mpr hg, he⟩).symm
    · rw [hv] at he; cases he
  | ok rs =>
    rw [mapM_map] at hper
    simp only [id] at hper
    have hunit : ∀ u ∈ us, unitOut (slot u) (L u) = .ok ((L u).map some, (L u).map fun ℓ => exVal (slot u ℓ)) ∧
        ∀ ℓ ∈ L u, slot u ℓ = .ok (exVal (slot u ℓ)) := by
      intro u hu
      obtain ⟨r, hr⟩ := mapM_except_ok_mem _ us rs hper u hu
      obtain ⟨e, hok⟩ := unitOut_ok _ _ r hr
      exact ⟨by rw [hr, e], hok⟩
    rw [mapM_except_ok _ _ us fun u hu => (hunit u hu).1] at hper
    cases hper
    simp only
    rw [hG, List.flatMap_map, ← unitPairs_fst us L slot, ← unitPairs_snd us L slot]
    apply finalReindex_slots c bw c.sort n hn
    · intro p hp g hg e
      obtain ⟨u, hu, ℓ, hℓ, rfl⟩ := (mem_unitPairs us L slot p).mp hp
      cases Option.some.inj e
      rw [← hin u hu g hg hℓ]
      exact (hunit u hu).2 _ hℓ
    · intro g hg hall
      exact hout g hg fun u hu hℓ => hall _ ((mem_unitPairs us L slot _).mpr ⟨u, hu, _, hℓ, rfl⟩) rfl
    · intro hall
      exact hempty fun u hu g hg hℓ => hall _ ((mem_unitPairs us L slot _).mpr ⟨u, hu, _, hℓ, rfl⟩) g hg rfl

end Flox
