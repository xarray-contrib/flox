/-
  Arg-reductions (`argmax`, `argmin`, `nanargmax`, `nanargmin`) through `_grouped_combine` (property C06): the pair laws.

  The chunk stage stores per block and label the pair (extreme value, global index of its first occurrence);
  `_grouped_combine` runs (value kernel, arg kernel) over these pairs in block order.  From the (value, index) pairs of a
  label both stages compute the leftmost best pair `pick1` of the pairs the kernel selects from (`argSel`), or
  (fill, junk) when it selects none.  `pick1` is associative, so combining the per-block pairs gives the pair of the
  concatenated members:

    pairLawN_indexed, pairLawN   the blueprints of flox since commit 41daa06 (those of the generated table; `blockPairN`):
                                 the same kernels in both stages, value fill ∓inf (`arg*`) or NaN (`nanarg*`); no
                                 hypothesis on the data
    pairLaw_arg                  `argmax` / `argmin` in the vocabulary `blockPair` / `combinePair` of the blueprint before
                                 that commit (for these two kernels the blueprints coincide)
    pairLaw_nanarg               the `nanarg*` blueprint before flox commit 41daa06 (combine `(max, argmax)`, value fill
                                 ∓inf): a block whose members are all NaN contributes the junk pair (∓inf, first index
                                 of the block), which wins when the genuine extreme is ∓inf; correct under `HArgFill`
-/
import FloxProofs.ArgOrder
import FloxProofs.BlockVal

namespace Flox.Grp

/-- the position a `Val` index stands for (`argGrouped` and `chunk_argreduce` read it off with this match, inline) -/
def natOf : Val → Nat
  | .fin q => q.num.toNat
  | _ => 0

theorem natOf_ofNat (n : Nat) : natOf (Val.ofNat n) = n := by
  simp [natOf, Val.ofNat]

/-- what the arg kernel `k` selects from the member pairs `ps` of one label: the global index of the first extreme
    (NaN members dropped first for `nanarg*`); `junk` when nothing is left -/
def argPick (k : Kernel) (junk : Val) (ps : List VI) : Val :=
  let ps' := if k.skipsNaN then ps.filter (fun p => !p.1.isNaN) else ps
  if ps'.isEmpty then junk else (ps'.getD (natOf (kEval k (ps'.map (·.1)))) (Val.nan, Val.nan)).2

/-- the pairs an arg kernel selects from: all of them (`arg*`), those with a non-NaN value (`nanarg*`) -/
def argSel (k : Kernel) (ps : List VI) : List VI := ps.filter fun p => !k.skipsNaN || !p.1.isNaN

theorem argSel_of_noskip {k : Kernel} (hs : k.skipsNaN = false) (ps : List VI) : argSel k ps = ps :=
  List.filter_eq_self.mpr (by simp [hs])

theorem nonNaN_of_mem_argSel {k : Kernel} (hs : k.skipsNaN = true) {ps : List VI} {p : VI} (h : p ∈ argSel k ps) :
    p.1.isNaN = false := by
  simpa [hs] using (List.mem_filter.mp h).2

theorem argSel_flatten (k : Kernel) (pss : List (List VI)) : argSel k pss.flatten = (pss.map (argSel k)).flatten :=
  List.filter_flatten

theorem argSel_map_fst (k : Kernel) (ps : List VI) :
    (argSel k ps).map (·.1) = if k.skipsNaN then dropNaN (ps.map (·.1)) else ps.map (·.1) := by
  cases hs : k.skipsNaN
  · simp [argSel_of_noskip hs]
  · simp [argSel, hs, dropNaN, List.filter_map, Function.comp_def]

abbrev validP (ps : List VI) : List VI := ps.filter (fun p => !p.1.isNaN)

def goodP (k : Kernel) (ps : List VI) : Prop := if k.skipsNaN then validP ps ≠ [] else ps ≠ []

instance (k : Kernel) (ps : List VI) : Decidable (goodP k ps) := by unfold goodP; infer_instance

theorem goodP_iff (k : Kernel) (ps : List VI) : goodP k ps ↔ argSel k ps ≠ [] := by
  unfold goodP
  cases hs : k.skipsNaN
  · simp [argSel_of_noskip hs]
  · simp [argSel, hs]

theorem isArgKernel_cases {k : Kernel} (h : isArgKernel k = true) :
    (k = .argmax ∨ k = .argmin) ∨ (k = .nanargmax ∨ k = .nanargmin) := by
  cases k <;> simp [isArgKernel] at h ⊢

theorem argBetter_nan {k : Kernel} (hk : isArgKernel k = true) (hs : k.skipsNaN = true) {w b : Val}
    (hw : w.isNaN = false) (hb : b.isNaN = true) : argBetter k w b = true := by
  rcases isArgKernel_cases hk with (rfl | rfl) | (rfl | rfl)
  · exact absurd hs (by decide)
  · exact absurd hs (by decide)
  · simp [argBetter, hw, hb]
  · simp [argBetter, hw, hb]

theorem pick1_argSel (k : Kernel) (hk : isArgKernel k = true) (ps : List VI) (h : argSel k ps ≠ []) :
    pick1 k (argSel k ps) = pick1 k ps := by
  symm
  apply pick1_filter k _ ps h
  intro b _ hb
  have hb : k.skipsNaN = true ∧ b.1.isNaN = true := by simpa using hb
  exact argBetter_nan hk hb.1 (nonNaN_of_mem_argSel hb.1 (pick1_mem k _ h)) hb.2

theorem argPick_eq (k : Kernel) (hk : isArgKernel k = true) (junk : Val) (ps : List VI) :
    argPick k junk ps = if argSel k ps = [] then junk else (pick1 k ps).2 := by
  have hsel : (if k.skipsNaN then ps.filter (fun p => !p.1.isNaN) else ps) = argSel k ps := by
    cases hs : k.skipsNaN
    · simp [argSel_of_noskip hs]
    · simp [argSel, hs]
  unfold argPick
  simp only [hsel]
  by_cases h : argSel k ps = []
  · simp [h]
  · have : (argSel k ps).isEmpty = false := by simpa using h
    simp only [this, Bool.false_eq_true, if_false, h, kEval_arg k hk, natOf_ofNat]
    rw [getD_argBest k _ _ h, pick1_argSel k hk ps h]

theorem argPick_good (k : Kernel) (hk : isArgKernel k = true) (junk : Val) (ps : List VI) (h : argSel k ps ≠ []) :
    argPick k junk ps = (ps.getD (argBest (argBetter k) (ps.map (·.1))) (Val.nan, Val.nan)).2 := by
  rw [argPick_eq k hk, if_neg h, getD_argBest k ps _ (fun e => h (by rw [e]; rfl))]

/-- chunk kernel of the value column -/
def argChunkVal : Kernel → Kernel
  | .argmax => .max | .argmin => .min | .nanargmax => .nanmax | .nanargmin => .nanmin | k => k

/-- combine kernels (value column, index column) in the blueprint before flox commit 41daa06: `nanarg*` are combined
    with the plain kernels -/
def argCmbVal : Kernel → Kernel
  | .argmax | .nanargmax => .max
  | _ => .min

def argCmbArg : Kernel → Kernel
  | .argmax | .nanargmax => .argmax
  | _ => .argmin

/-- intermediate fill of the value column in the blueprint before flox commit 41daa06 -/
def argFill : Kernel → Val
  | .argmax | .nanargmax => Val.ninf
  | _ => Val.pinf

/-- intermediate fill of the value column in the blueprint since flox commit 41daa06 -/
def argFillN : Kernel → Val
  | .argmax => Val.ninf
  | .argmin => Val.pinf
  | _ => Val.nan

def argExt : Kernel → Val → Val → Val
  | .argmax | .nanargmax => Val.max
  | _ => Val.min

theorem pickOp_fst (k : Kernel) (hk : k = .argmax ∨ k = .argmin) (a b : VI) :
    (pickOp k a b).1 = argExt k a.1 b.1 := by
  obtain ⟨a1, a2⟩ := a
  obtain ⟨b1, b2⟩ := b
  rcases hk with rfl | rfl <;>
    cases a1 <;> cases b1 <;> simp [pickOp, argBetter, argExt, Val.lt, Val.isNaN, Val.max, Val.min] <;> grind

theorem foldl_pickOp_fst (k : Kernel) (hk : k = .argmax ∨ k = .argmin) (a : VI) (ps : List VI) :
    (ps.foldl (pickOp k) a).1 = (ps.map (·.1)).foldl (argExt k) a.1 := by
  induction ps generalizing a with
  | nil => rfl
  | cons p ps ih => simp only [List.foldl_cons, List.map_cons, ih, pickOp_fst k hk]

theorem pick1_fst (k : Kernel) (hk : k = .argmax ∨ k = .argmin) (ps : List VI) (hne : ps ≠ []) :
    (pick1 k ps).1 = kEval (argCmbVal k) (ps.map (·.1)) := by
  cases ps with
  | nil => exact absurd rfl hne
  | cons p ps =>
    simp only [pick1, foldl_pickOp_fst k hk, List.map_cons]
    rcases hk with rfl | rfl <;> rfl

theorem argBetter_nan_eq (k : Kernel) (hk : k = .nanargmax ∨ k = .nanargmin) {y b : Val}
    (hy : y.isNaN = false) (hb : b.isNaN = false) : argBetter k y b = argBetter (argCmbArg k) y b := by
  rcases hk with rfl | rfl <;> simp [argBetter, argCmbArg, hy, hb]

theorem pickOp_mem (k : Kernel) (a b : VI) : pickOp k a b = a ∨ pickOp k a b = b := by
  cases h : argBetter k b.1 a.1
  · exact Or.inl (pickOp_of_not_better k a b h)
  · exact Or.inr (pickOp_of_better k a b h)

theorem foldl_pickOp_nan_eq (k : Kernel) (hk : k = .nanargmax ∨ k = .nanargmin) (a : VI) (ps : List VI)
    (ha : a.1.isNaN = false) (hps : ∀ p ∈ ps, p.1.isNaN = false) :
    ps.foldl (pickOp k) a = ps.foldl (pickOp (argCmbArg k)) a := by
  induction ps generalizing a with
  | nil => rfl
  | cons p ps ih =>
    have hp := hps p (by simp)
    have hstep : pickOp k a p = pickOp (argCmbArg k) a p := by
      unfold pickOp
      rw [argBetter_nan_eq k hk hp ha]
    simp only [List.foldl_cons]
    rw [hstep]
    apply ih
    · rcases pickOp_mem (argCmbArg k) a p with h | h <;> rw [h] <;> assumption
    · intro q hq; exact hps q (by simp [hq])

theorem pick1_nan_eq (k : Kernel) (hk : k = .nanargmax ∨ k = .nanargmin) (ps : List VI)
    (hps : ∀ p ∈ ps, p.1.isNaN = false) : pick1 k ps = pick1 (argCmbArg k) ps := by
  cases ps with
  | nil => rfl
  | cons p ps =>
    exact foldl_pickOp_nan_eq k hk p ps (hps p (by simp)) (fun q hq => hps q (by simp [hq]))

/-- the value column holds the value of the leftmost best selected pair.  With nothing selected both sides are the
    fill.  Otherwise pass to the selected pairs (`pick1_argSel`).  `arg*`: the first component of `pickOp` is the
    running max / min (`pick1_fst`).  `nanarg*`: the selected pairs are NaN-free, where `nanarg*` picks like its plain
    kernel (`pick1_nan_eq`), so `pick1_fst` applies again and gives the max / min of the non-NaN values. -/
theorem argChunkVal_eq (k : Kernel) (hk : isArgKernel k = true) (f : Val) (ps : List VI) :
    blockVal (argChunkVal k) f (ps.map (·.1)) = if argSel k ps = [] then f else (pick1 k ps).1 := by
  by_cases h : argSel k ps = []
  · rw [if_pos h]
    have hm : (if k.skipsNaN then dropNaN (ps.map (·.1)) else ps.map (·.1)) = [] := by
      rw [← argSel_map_fst, h]; rfl
    rcases isArgKernel_cases hk with (rfl | rfl) | (rfl | rfl)
    · rw [show ps.map (·.1) = [] from hm]; rfl
    · rw [show ps.map (·.1) = [] from hm]; rfl
    · rw [argChunkVal, nanmaxExt.blockVal_eq, if_pos (show dropNaN (ps.map (·.1)) = [] from hm)]
    · rw [argChunkVal, nanminExt.blockVal_eq, if_pos (show dropNaN (ps.map (·.1)) = [] from hm)]
  · rw [if_neg h, ← pick1_argSel k hk ps h]
    have hm : (argSel k ps).map (·.1) ≠ [] := by simpa using h
    rcases isArgKernel_cases hk with hk' | hk'
    · have hs : k.skipsNaN = false := by rcases hk' with rfl | rfl <;> rfl
      rw [argSel_of_noskip hs] at hm ⊢
      rw [pick1_fst k hk' ps (by simpa using hm)]
      rcases hk' with rfl | rfl <;> exact blockVal_of_noskip _ _ _ rfl hm
    · have hs : k.skipsNaN = true := by rcases hk' with rfl | rfl <;> rfl
      rw [pick1_nan_eq k hk' _ (fun p hp => nonNaN_of_mem_argSel hs hp),
        pick1_fst _ (by rcases hk' with rfl | rfl <;> simp [argCmbArg]) _ h, argSel_map_fst, if_pos hs]
      rw [argSel_map_fst, if_pos hs] at hm
      rcases hk' with rfl | rfl
      · rw [argChunkVal, nanmaxExt.blockVal_eq, if_neg hm]
        simp [kEval, hm, argCmbVal, argCmbArg]
      · rw [argChunkVal, nanminExt.blockVal_eq, if_neg hm]
        simp [kEval, hm, argCmbVal, argCmbArg]

/-- both columns of a stage that runs (`argChunkVal k`, `k`) with value fill `f` over the pairs of a label -/
theorem argBlock_eq (k : Kernel) (hk : isArgKernel k = true) (f junk : Val) (ps : List VI) :
    (blockVal (argChunkVal k) f (ps.map (·.1)), argPick k junk ps)
      = if argSel k ps = [] then (f, junk) else pick1 k ps := by
  rw [argChunkVal_eq k hk, argPick_eq k hk]
  split <;> rfl

/-- the pairs of a block as a stage with value fill `f` sees them: a block in which the kernel selects nothing counts
    as a block whose only member is its (`f`, junk) pair -/
def argQ (k : Kernel) (f junk : Val) (ps : List VI) : List VI := if argSel k ps = [] then [(f, junk)] else ps

theorem argQ_ne_nil (k : Kernel) (f junk : Val) (ps : List VI) : argQ k f junk ps ≠ [] := by
  unfold argQ
  split
  · simp
  · rename_i h; intro e; exact h (by rw [e]; rfl)

theorem map_argBlock {β} (k : Kernel) (hk : isArgKernel k = true) (f : Val) (bs : List β) (P : β → List VI)
    (J : β → Val) :
    (bs.map fun b => (blockVal (argChunkVal k) f ((P b).map (·.1)), argPick k (J b) (P b)))
      = (bs.map fun b => argQ k f (J b) (P b)).map (pick1 k) := by
  rw [List.map_map]
  refine List.map_congr_left fun b _ => ?_
  rw [argBlock_eq k hk, Function.comp, argQ]
  split <;> rfl

theorem argSel_winners_eq_nil_iff (k : Kernel) (hk : isArgKernel k = true) (L : List (List VI))
    (hL : ∀ l ∈ L, l ≠ []) : argSel k (L.map (pick1 k)) = [] ↔ argSel k L.flatten = [] := by
  constructor
  · intro h
    apply Classical.byContradiction
    intro hne
    have hw : pick1 k L.flatten ∈ argSel k L.flatten := by
      rw [← pick1_argSel k hk _ hne]; exact pick1_mem _ _ hne
    obtain ⟨l, hl, hwl⟩ := List.mem_flatten.mp (List.mem_filter.mp hw).1
    -- the overall winner wins in its own block
    have hLne : L ≠ [] := List.ne_nil_of_mem hl
    rw [← pick1_flatten k L hLne hL] at hw
    have : pick1 k (L.map (pick1 k)) ∈ argSel k (L.map (pick1 k)) :=
      List.mem_filter.mpr ⟨pick1_mem k _ (by simpa using hLne), (List.mem_filter.mp hw).2⟩
    rw [h] at this
    simp at this
  · intro h
    apply List.filter_eq_nil_iff.mpr
    intro q hq hq'
    obtain ⟨l, hl, rfl⟩ := List.mem_map.mp hq
    have : pick1 k l ∈ argSel k L.flatten :=
      List.mem_filter.mpr ⟨List.mem_flatten.mpr ⟨l, hl, pick1_mem k l (hL l hl)⟩, hq'⟩
    rw [h] at this
    simp at this

/-- what the chunk stage stores for a label with member pairs `ps` (value column, index column), blueprint before flox
    commit 41daa06 -/
def blockPair (k : Kernel) (junk : Val) (ps : List VI) : VI :=
  (blockVal (argChunkVal k) (argFill k) (ps.map (·.1)), argPick k junk ps)

/-- what `_grouped_combine` computes from the stacked per-block pairs `qs` of a label, blueprint before flox commit
    41daa06 -/
def combinePair (k : Kernel) (junk : Val) (qs : List VI) : VI :=
  (blockVal (argCmbVal k) (argFill k) (qs.map (·.1)), argPick (argCmbArg k) junk qs)

/-- what the chunk stage and the combine stage compute from the (value, index) pairs `ps` of one label in the blueprint
    since flox commit 41daa06: (value column, index column); `junk` is the index stored when nothing can be selected -/
def blockPairN (k : Kernel) (junk : Val) (ps : List VI) : VI :=
  (blockVal (argChunkVal k) (argFillN k) (ps.map (·.1)), argPick k junk ps)

theorem blockPairN_eq (k : Kernel) (hk : isArgKernel k = true) (junk : Val) (ps : List VI) :
    blockPairN k junk ps = if argSel k ps = [] then (argFillN k, junk) else pick1 k ps :=
  argBlock_eq k hk _ junk ps

theorem blockPair_eq (k : Kernel) (hk : isArgKernel k = true) (junk : Val) (ps : List VI) :
    blockPair k junk ps = if argSel k ps = [] then (argFill k, junk) else pick1 k ps :=
  argBlock_eq k hk _ junk ps

theorem combinePair_eq_blockPair (k : Kernel) (hk : k = .argmax ∨ k = .argmin) (junk : Val) (ps : List VI) :
    combinePair k junk ps = blockPair k junk ps := by
  rcases hk with rfl | rfl <;> rfl

/-- the (fill, junk) pair of the blueprint since flox commit 41daa06 is not selected: NaN under `nanarg*`, and never
    needed under `arg*`, which select from every non-empty block -/
theorem argSel_argQ (k : Kernel) (hk : isArgKernel k = true) (junk : Val) (ps : List VI) (hne : ps ≠ []) :
    argSel k (argQ k (argFillN k) junk ps) = argSel k ps := by
  unfold argQ
  split
  · rename_i h
    cases hs : k.skipsNaN
    · exact absurd ((argSel_of_noskip hs _).symm.trans h) hne
    · have hf : argFillN k = Val.nan := by
        rcases isArgKernel_cases hk with (rfl | rfl) | (rfl | rfl) <;> first | rfl | exact absurd hs (by decide)
      rw [h, hf]
      simp [argSel, hs, Val.isNaN]
  · rfl

/-- The pair law, indexed form, for all four arg-reductions and without hypothesis on the data: by `map_argBlock` both
    sides are the leftmost best selected pair of one and the same list, or (fill, junk) when nothing is selected.
    (`bs` = the blocks in which the label occurs, `P b` = the label's (value, index) pairs in block `b`,
    `J b` = the junk index of block `b`.) -/
theorem pairLawN_indexed {β} (k : Kernel) (hk : isArgKernel k = true) (bs : List β) (P : β → List VI) (J : β → Val)
    (junkC : Val) (hne : bs ≠ []) (hall : ∀ b ∈ bs, P b ≠ []) :
    blockPairN k junkC (bs.map fun b => blockPairN k (J b) (P b)) = blockPairN k junkC (bs.map P).flatten := by
  let Q : β → List VI := fun b => argQ k (argFillN k) (J b) (P b)
  have hQne : ∀ qs ∈ bs.map Q, qs ≠ [] := fun qs hqs => by
    obtain ⟨b, _, rfl⟩ := List.mem_map.mp hqs
    exact argQ_ne_nil _ _ _ _
  have hsel : argSel k (bs.map Q).flatten = argSel k (bs.map P).flatten := by
    rw [argSel_flatten, argSel_flatten, List.map_map, List.map_map]
    exact congrArg List.flatten (List.map_congr_left fun b hb => argSel_argQ k hk (J b) (P b) (hall b hb))
  have hiff := argSel_winners_eq_nil_iff k hk (bs.map Q) hQne
  rw [blockPairN_eq k hk, blockPairN_eq k hk,
    show (bs.map fun b => blockPairN k (J b) (P b)) = (bs.map Q).map (pick1 k) from map_argBlock k hk _ bs P J]
  by_cases hv : argSel k (bs.map P).flatten = []
  · rw [if_pos (hiff.mpr (hsel.trans hv)), if_pos hv]
  · have hvQ : argSel k (bs.map Q).flatten ≠ [] := fun h => hv (hsel.symm.trans h)
    rw [if_neg (mt hiff.mp hvQ), if_neg hv, pick1_flatten k _ (by simpa using hne) hQne, ← pick1_argSel k hk _ hvQ,
      hsel, pick1_argSel k hk _ hv]

/-- the pair law in the form of `pairLaw_arg` / `pairLaw_nanarg` (but without `HArgFill`) -/
theorem pairLawN (k : Kernel) (hk : isArgKernel k = true) (junkB : List VI → Val) (junkC : Val)
    (pss : List (List VI)) (hne : pss ≠ []) (hall : ∀ ps ∈ pss, ps ≠ []) :
    blockPairN k junkC (pss.map fun ps => blockPairN k (junkB ps) ps) = blockPairN k junkC pss.flatten := by
  have := pairLawN_indexed k hk pss id junkB junkC hne hall
  simpa using this

theorem pairLaw_arg (k : Kernel) (hk : k = .argmax ∨ k = .argmin) (junkB : List VI → Val) (junkC junk : Val)
    (pss : List (List VI)) (hne : pss ≠ []) (hall : ∀ ps ∈ pss, ps ≠ []) :
    combinePair k junkC (pss.map fun ps => blockPair k (junkB ps) ps) = blockPair k junk pss.flatten := by
  have hk' : isArgKernel k = true := by rcases hk with rfl | rfl <;> rfl
  have hN : ∀ j ps, blockPair k j ps = blockPairN k j ps := by rcases hk with rfl | rfl <;> intros <;> rfl
  have hfl : argSel k pss.flatten ≠ [] := by
    rw [argSel_of_noskip (by rcases hk with rfl | rfl <;> rfl)]
    obtain ⟨ps, hps⟩ := List.exists_mem_of_ne_nil _ hne
    obtain ⟨q, hq⟩ := List.exists_mem_of_ne_nil _ (hall ps hps)
    exact List.ne_nil_of_mem (List.mem_flatten.mpr ⟨ps, hps, hq⟩)
  rw [combinePair_eq_blockPair k hk]
  simp only [hN]
  rw [pairLawN k hk' junkB junkC pss hne hall, blockPairN_eq k hk', blockPairN_eq k hk', if_neg hfl, if_neg hfl]

theorem argBetter_over_fill (k : Kernel) (hk : k = .nanargmax ∨ k = .nanargmin) {a : Val} (ha : a.isNaN = false)
    (hne : a ≠ argFill k) : argBetter k a (argFill k) = true := by
  rcases hk with rfl | rfl <;> cases a <;> simp_all [argBetter, argFill, Val.lt, Val.isNaN]

/-- the label has a valid (non-NaN) member different from the intermediate fill ∓inf of the value
    column, i.e. its `nanmax` is not `-inf` (`nanmin` not `+inf`) -/
def HArgFill (k : Kernel) (vs : List Val) : Prop := ∃ v ∈ vs, v.isNaN = false ∧ v ≠ argFill k

instance (k : Kernel) (vs : List Val) : Decidable (HArgFill k vs) := by unfold HArgFill; infer_instance

def aboveFill (k : Kernel) (q : VI) : Bool := !q.1.isNaN && decide (q.1 ≠ argFill k)

/-- under `nanarg*` NaN pairs and pairs at the fill level (junk or genuine) lose against a valid member above it -/
theorem pick1_filter_aboveFill (k : Kernel) (hk : k = .nanargmax ∨ k = .nanargmin) (l : List VI)
    (hne : l.filter (aboveFill k) ≠ []) : pick1 k l = pick1 k (l.filter (aboveFill k)) := by
  have hk' : isArgKernel k = true := by rcases hk with rfl | rfl <;> rfl
  apply pick1_filter _ _ l hne
  intro b _ hb
  have hw := (List.mem_filter.mp (pick1_mem k _ hne)).2
  simp only [aboveFill, Bool.and_eq_true, Bool.not_eq_true', decide_eq_true_eq] at hw
  cases hbn : b.1.isNaN
  · rw [show b.1 = argFill k by simpa [aboveFill, hbn] using hb]
    exact argBetter_over_fill k hk hw.1 hw.2
  · exact argBetter_nan hk' (by rcases hk with rfl | rfl <;> rfl) hw.1 hbn

/-- the junk pair of an all-NaN block is at the fill level, and the block holds nothing above it -/
theorem filter_aboveFill_argQ (k : Kernel) (hk : k = .nanargmax ∨ k = .nanargmin) (junk : Val) (ps : List VI) :
    (argQ k (argFill k) junk ps).filter (aboveFill k) = ps.filter (aboveFill k) := by
  unfold argQ
  split
  · rename_i h
    have hs : k.skipsNaN = true := by rcases hk with rfl | rfl <;> rfl
    have h1 : [(argFill k, junk)].filter (aboveFill k) = [] := by simp [aboveFill]
    have h2 : ps.filter (aboveFill k) = [] := List.filter_eq_nil_iff.mpr fun q hq => by
      have : q.1.isNaN = true := by simpa [argSel, hs] using List.filter_eq_nil_iff.mp h q hq
      simp [aboveFill, this]
    rw [h1, h2]
  · rfl

/-- the block winners are NaN-free, and on NaN-free pairs the combine with the plain kernels picks like `k` -/
theorem combinePair_winners (k : Kernel) (hk : k = .nanargmax ∨ k = .nanargmin) (junkC : Val) (J : List VI → Val)
    (pss : List (List VI)) (hne : pss ≠ []) :
    combinePair k junkC ((pss.map fun ps => argQ k (argFill k) (J ps) ps).map (pick1 k))
      = pick1 k ((pss.map fun ps => argQ k (argFill k) (J ps) ps).map (pick1 k)) := by
  have hk' : isArgKernel k = true := by rcases hk with rfl | rfl <;> rfl
  have hs : k.skipsNaN = true := by rcases hk with rfl | rfl <;> rfl
  have hc : isArgKernel (argCmbArg k) = true ∧ (argCmbArg k).skipsNaN = false := by
    rcases hk with rfl | rfl <;> exact ⟨rfl, rfl⟩
  have hnn : ∀ q ∈ (pss.map fun ps => argQ k (argFill k) (J ps) ps).map (pick1 k), q.1.isNaN = false := by
    intro q hq
    obtain ⟨qs, hqs, rfl⟩ := List.mem_map.mp hq
    obtain ⟨ps, _, rfl⟩ := List.mem_map.mp hqs
    unfold argQ
    split
    · rcases hk with rfl | rfl <;> rfl
    · rename_i h
      rw [← pick1_argSel k hk' ps h]
      exact nonNaN_of_mem_argSel hs (pick1_mem k _ h)
  have hcp : ∀ X, combinePair k junkC X = blockPairN (argCmbArg k) junkC X := by
    rcases hk with rfl | rfl <;> intro X <;> rfl
  rw [hcp, blockPairN_eq _ hc.1, argSel_of_noskip hc.2, if_neg (by simpa using hne), pick1_nan_eq k hk _ hnn]

theorem pairLaw_nanarg (k : Kernel) (hk : k = .nanargmax ∨ k = .nanargmin) (junkB : List VI → Val)
    (junkC junk : Val) (pss : List (List VI)) (hne : pss ≠ [])
    (H_argfill : HArgFill k (pss.flatten.map (·.1))) :
    combinePair k junkC (pss.map fun ps => blockPair k (junkB ps) ps) = blockPair k junk pss.flatten := by
  have hk' : isArgKernel k = true := by rcases hk with rfl | rfl <;> rfl
  obtain ⟨v, hv, hvn, hvf⟩ := H_argfill
  obtain ⟨p, hp, rfl⟩ := List.mem_map.mp hv
  -- the valid member above the fill level: something is selected, and something stays after the filter
  have hfl : argSel k pss.flatten ≠ [] :=
    List.ne_nil_of_mem (List.mem_filter.mpr ⟨hp, by simp [hvn]⟩)
  have hG : pss.flatten.filter (aboveFill k) ≠ [] :=
    List.ne_nil_of_mem (List.mem_filter.mpr ⟨hp, by simp [aboveFill, hvn, hvf]⟩)
  let Q : List VI → List VI := fun ps => argQ k (argFill k) (junkB ps) ps
  have hfilter : (pss.map Q).flatten.filter (aboveFill k) = pss.flatten.filter (aboveFill k) := by
    rw [List.filter_flatten, List.filter_flatten, List.map_map]
    exact congrArg List.flatten (List.map_congr_left fun ps _ => filter_aboveFill_argQ k hk (junkB ps) ps)
  -- both sides are the winner of the pairs above the fill level
  rw [show (pss.map fun ps => blockPair k (junkB ps) ps) = (pss.map Q).map (pick1 k) from
      map_argBlock k hk' _ pss id junkB,
    combinePair_winners k hk junkC junkB pss hne,
    pick1_flatten k _ (by simpa using hne) (fun qs hqs => by
      obtain ⟨ps, _, rfl⟩ := List.mem_map.mp hqs
      exact argQ_ne_nil _ _ _ _),
    pick1_filter_aboveFill k hk _ (by rw [hfilter]; exact hG), hfilter, blockPair_eq k hk', if_neg hfl,
    pick1_filter_aboveFill k hk _ hG]

end Flox.Grp
