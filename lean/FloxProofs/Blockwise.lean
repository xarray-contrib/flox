/-
  The plan `.blockwise false` of `runKnown` (`method="blockwise"`, no reindexing at the block stage) for any chunking
  into non-empty blocks such that every label ≥ 0 lies within one block, and `.blockwise true` on a single block.
  Every block is a unit of `FloxProofs/Assemble.lean`: it returns its distinct codes and the eager slot of each.  A
  label that lies within one block has all its members there, so that slot is the specification's.
-/
import FloxProofs.EndToEndFlox
import FloxProofs.Assemble
import FloxProofs.SparseKeys

namespace Flox
namespace BW

theorem mapM_option_some {α β} (f : α → β) (l : List α) : l.mapM (fun a => some (f a)) = some (l.map f) :=
  Flox.mapM_option_some _ f l fun _ _ => rfl

theorem all_ok_or_error {α β} (f : α → Except String β) (l : List α) :
    (∀ a ∈ l, ∃ b, f a = .ok b) ∨ (∃ a ∈ l, ∃ e, f a = .error e) := by
  cases h : l.mapM f with
  | ok bs => exact .inl (mapM_except_ok_mem f l bs h)
  | error e =>
    obtain ⟨a, ha, he⟩ := mapM_except_error_mem f l e h
    exact .inr ⟨a, ha, e, he⟩

theorem splitBy_piece_length {α} (chunks : List Nat) (xs : List α) (h : chunks.sum ≤ xs.length) :
    (splitBy chunks xs).map List.length = chunks := by
  induction chunks generalizing xs with
  | nil => rfl
  | cons n ns ih =>
    simp only [List.sum_cons] at h
    simp only [splitBy, List.map_cons, List.length_take]
    rw [ih (xs.drop n) (by rw [List.length_drop]; exact Nat.le_sub_of_add_le' h),
      Nat.min_eq_left (Nat.le_trans (Nat.le_add_right n ns.sum) h)]

theorem splitBy_piece_ne_nil {α} (chunks : List Nat) (xs : List α) (h : chunks.sum ≤ xs.length)
    (hpos : ∀ n ∈ chunks, 0 < n) : ∀ b ∈ splitBy chunks xs, b ≠ [] := by
  intro b hb hnil
  have hl := splitBy_piece_length chunks xs h
  have : b.length ∈ (splitBy chunks xs).map List.length := List.mem_map.mpr ⟨b, hb, rfl⟩
  rw [hl] at this
  have := hpos _ this
  simp [hnil] at this

theorem segsOf_map_fst (chunks : List Nat) (codes : List Int) (vals : List Val) :
    (segsOf chunks codes vals).map (·.1) = splitBy chunks codes := by
  unfold segsOf
  exact List.map_fst_zip (by simp [splitBy_length])

theorem segsOf_fst_ne_nil (chunks : List Nat) (codes : List Int) (vals : List Val)
    (hsum : chunks.sum ≤ codes.length) (hpos : ∀ k ∈ chunks, 0 < k) :
    ∀ p ∈ segsOf chunks codes vals, p.1 ≠ [] := by
  intro p hp
  apply splitBy_piece_ne_nil chunks codes hsum hpos
  rw [← segsOf_map_fst chunks codes vals]
  exact List.mem_map.mpr ⟨p, hp, rfl⟩

theorem intCast_mem_labelsOf (sort : Bool) (cs : List Int) (c : Int) : (c : Rat) ∈ labelsOf sort cs ↔ c ∈ cs := by
  rw [labelsOf, Grp.mem_uniqOf, List.mem_map]
  constructor
  · rintro ⟨c', hc', e⟩
    exact Rat.intCast_inj.mp e ▸ hc'
  · intro h; exact ⟨c, h, rfl⟩

theorem natCast_mem_labelsOf (sort : Bool) (cs : List Int) (g : Nat) :
    ((g : Nat) : Rat) ∈ labelsOf sort cs ↔ Int.ofNat g ∈ cs := by
  rw [← intCast_mem_labelsOf sort cs, Int.ofNat_eq_natCast, Rat.intCast_natCast]

theorem mem_labelsOf (sort : Bool) (cs : List Int) (r : Rat) (h : r ∈ labelsOf sort cs) : ∃ c ∈ cs, (c : Rat) = r := by
  simpa [labelsOf, Grp.mem_uniqOf] using h

/-- one block, `chunk_reduce(…, expected_groups=None)` then `_finalize_results` without reindexing: for every label the
    block announces, the eager slot of the label's members inside the block -/
theorem block_result (R : Resolved) (s : Shape) (hs : s.Fits R) (sort : Bool) (cs : List Int) (vs : List Val)
    (hne : cs ≠ []) :
    finalizeResults { R with finalize := "none" }
        (chunkReduce .npg R.numpy R.numpyFills (codeKeys cs) vs none sort) none false
      = unitOut (fun ℓ => eagerSlot R (keyMembers (some ℓ) cs vs)) (labelsOf sort cs) := by
  have hG : blockGroups sort cs = (labelsOf sort cs).map some := if_neg hne
  refine (congrArg (finalizeResults _ · none false)
    (chunkReduce_sparse_codes R.numpy R.numpyFills cs vs sort hs.numpy_noarg hs.numpy_zero)).trans ?_
  rw [spInter, finalizeResults_numpy hs _ _ _ _ _ (Or.inl rfl), hG, mapM_map]
  rfl

theorem map_zip_splitBy_codeKeys {β} (chunks : List Nat) (codes : List Int) (vals : List Val)
    (F : List Key × List Val → β) :
    ((splitBy chunks (codeKeys codes)).zip (splitBy chunks vals)).map F
      = (segsOf chunks codes vals).map fun p => F (codeKeys p.1, p.2) := by
  have h1 : splitBy chunks (codeKeys codes) = (splitBy chunks codes).map codeKeys := splitBy_map _ _ _
  rw [h1, List.zip_map_left, List.map_map]
  rfl

theorem flatMap_splitBy_codeKeys {β} (chunks : List Nat) (codes : List Int) (vals : List Val)
    (G : List Key → List β) :
    (splitBy chunks (codeKeys codes)).flatMap G
      = (segsOf chunks codes vals).flatMap fun p => G (codeKeys p.1) := by
  have h1 : splitBy chunks (codeKeys codes) = (splitBy chunks codes).map codeKeys := splitBy_map _ _ _
  rw [h1, ← segsOf_map_fst chunks codes vals, List.map_map, List.flatMap_map]
  rfl

theorem runKnown_blockwise_eq (c : Call) (floatData : Bool) (chunks : List Nat) (codes : List Int)
    (vals : List Val) :
    runKnown c (.blockwise false) floatData chunks (codeKeys codes) vals
      = unitsTail c true (fun _ => (segsOf chunks codes vals).flatMap fun p => (labelsOf c.sort p.1).map some)
          ((segsOf chunks codes vals).map fun p =>
            finalizeResults { c.R with finalize := "none" }
              (chunkReduce c.eng c.R.numpy c.R.numpyFills (codeKeys p.1) p.2 none c.sort) none false) := by
  simp only [runKnown, Bool.false_eq_true, if_false, unitsTail, gathered]
  rw [map_zip_splitBy_codeKeys, flatMap_splitBy_codeKeys chunks codes vals]
  simp only [Grp.presentKeys_codeKeys]
  rfl

abbrev DisjointBlocks (blocks : List (List Int)) : Prop :=
  blocks.Pairwise fun a b => ∀ g ∈ a, 0 ≤ g → g ∉ b

/-- the precondition of `method="blockwise"`: every group (label `≥ 0`) lies within one block of the chunking -/
def EachLabelInOneBlock (chunks : List Nat) (codes : List Int) : Prop := DisjointBlocks (splitBy chunks codes)

instance (chunks : List Nat) (codes : List Int) : Decidable (EachLabelInOneBlock chunks codes) := by
  unfold EachLabelInOneBlock DisjointBlocks; infer_instance

theorem eachLabelInOneBlock_iff (chunks : List Nat) (codes : List Int) :
    EachLabelInOneBlock chunks codes ↔
      ∀ (g : Int), 0 ≤ g → ∀ (i j : Nat) (hi : i < (splitBy chunks codes).length)
        (hj : j < (splitBy chunks codes).length),
        g ∈ (splitBy chunks codes)[i] → g ∈ (splitBy chunks codes)[j] → i = j := by
  unfold EachLabelInOneBlock DisjointBlocks
  rw [List.pairwise_iff_getElem]
  constructor
  · intro h g hg i j hi hj hgi hgj
    rcases Nat.lt_trichotomy i j with hlt | heq | hgt
    · exact absurd hgj (h i j hi hj hlt g hgi hg)
    · exact heq
    · exact absurd hgi (h j i hj hi hgt g hgj hg)
  · intro h i j hi hj hlt g hgi hg hgj
    exact absurd (h g hg i j hi hj hgi hgj) (Nat.ne_of_lt hlt)

theorem members_unique_block (g : Int) (hg : 0 ≤ g) (segs : Segs) (hal : Aligned segs)
    (hdisj : segs.Pairwise fun p q => ∀ g ∈ p.1, 0 ≤ g → g ∉ q.1) (q : List Int × List Val) (hq : q ∈ segs)
    (hgq : g ∈ q.1) : members g (catC segs) (catV segs) = members g q.1 q.2 := by
  induction segs with
  | nil => simp at hq
  | cons p segs ih =>
    have hp := List.pairwise_cons.mp hdisj
    simp only [catC_cons, catV_cons]
    rw [members_append g _ _ _ _ (hal p (by simp))]
    rcases List.mem_cons.mp hq with rfl | hq'
    · have : members g (catC segs) (catV segs) = [] := by
        apply members_eq_nil_of_not_mem
        intro hmem
        obtain ⟨q', hq', hgq'⟩ := (mem_catC g segs).mp hmem
        exact hp.1 q' hq' g hgq hg hgq'
      rw [this, List.append_nil]
    · have : members g p.1 p.2 = [] := by
        apply members_eq_nil_of_not_mem
        intro hmem
        exact hp.1 q hq' g hmem hg hgq
      rw [this, List.nil_append]
      exact ih hal.tail hp.2 hq'

theorem eagerSlot_error_masked (R : Resolved) (ms : List Val) (e : String) (h : eagerSlot R ms = .error e) :
    R.userFill = none ∧ ¬ Unmasked R ms := by
  obtain ⟨_, huf, hmc, hcb⟩ := maskedSlot_error R _ _ e h
  exact ⟨huf, fun hun => hun ⟨hmc, by simpa [countBelow_countVal] using hcb⟩⟩

/-- with no fill value, the dropped elements (code `-1`) of a block must not trip the count mask:
    they form an ordinary group of the block until the final reindex -/
def HDropped (R : Resolved) (segs : Segs) : Prop :=
  R.userFill = none → ∀ p ∈ segs, (-1 : Int) ∈ p.1 → Unmasked R (members (-1) p.1 p.2)

/-- with no fill value and at least one requested label, some element must carry a label: when every block only
    holds dropped elements, the final reindex sees an empty array and fills with NaN instead of raising -/
def HSomeLabel (R : Resolved) (codes : List Int) (n : Nat) : Prop :=
  R.userFill = none → 0 < n → ∃ g ∈ codes, 0 ≤ g

theorem blockwise_segs (R : Resolved) (s : Shape) (c : Call) (n : Nat) (segs : Segs) (codes : List Int)
    (vals : List Val) (hC : catC segs = codes) (hV : catV segs = vals) (hn : c.ngroups = n) (hs : s.Fits R)
    (hal : Aligned segs) (hdisj : DisjointBlocks (segs.map (·.1))) (hcodes : CodesOK codes n)
    (hfill : c.fillArg = R.userFill) (H_allnan : HAllNaN R s)
    (H_dropped : HDropped R segs) (H_somelabel : HSomeLabel R codes n) :
    unitsTail c true (fun _ => segs.flatMap fun p => (labelsOf c.sort p.1).map some)
        (segs.map fun p => unitOut (fun ℓ => eagerSlot R (keyMembers (some ℓ) p.1 p.2)) (labelsOf c.sort p.1))
      = (List.range n).mapM fun (g : Nat) => specSlot R s.kernel (members (Int.ofNat g) codes vals) := by
  subst hC hV
  have hnil : ∀ g : Nat, (∀ q ∈ segs, ((g : Nat) : Rat) ∉ labelsOf c.sort q.1) →
      members (Int.ofNat g) (catC segs) (catV segs) = [] := by
    intro g hall
    apply members_eq_nil_of_not_mem
    intro hm
    obtain ⟨q, hq, hgq⟩ := (mem_catC _ segs).mp hm
    exact hall q hq ((natCast_mem_labelsOf c.sort q.1 g).mpr hgq)
  refine unitsTail_slots c true n hn segs _ _ _ _ rfl (fun g e h => (optToExcept_error _ e h).1) ?_ ?_ ?_ ?_
  · -- only the label `-1` of the dropped elements is not requested; `H_dropped` keeps it from failing
    intro q hq ℓ hℓ
    obtain ⟨g, hgq, rfl⟩ := mem_labelsOf c.sort q.1 ℓ hℓ
    have hrange := hcodes g ((mem_catC g segs).mpr ⟨q, hq, hgq⟩)
    by_cases hg : 0 ≤ g
    · refine Or.inl ⟨g.toNat, (Int.toNat_lt hg).mpr hrange.2, ?_⟩
      rw [← Rat.intCast_natCast, Int.toNat_of_nonneg hg]
    · have hm1 : g = -1 := by omega
      subst hm1
      right
      rw [keyMembers_code]
      cases he : eagerSlot R (members (-1) q.1 q.2) with
      | ok v => exact ⟨v, rfl⟩
      | error e =>
        have hmask := eagerSlot_error_masked R _ e he
        exact absurd (H_dropped hmask.1 q hq hgq) hmask.2
  · -- a requested label that occurs in block `q` has all its members there
    intro q hq g _ hℓ
    have hgq := (natCast_mem_labelsOf c.sort q.1 g).mp hℓ
    rw [keyMembers_nat, ← members_unique_block (Int.ofNat g) (Int.natCast_nonneg g) segs hal (List.pairwise_map.mp hdisj)
      q hq hgq]
    have hne : members (Int.ofNat g) (catC segs) (catV segs) ≠ [] :=
      members_ne_nil_of_mem _ _ _ (Nat.le_of_eq hal.cat_length) ((mem_catC _ segs).mpr ⟨q, hq, hgq⟩)
    exact eagerSlot_eq_specSlot hs _ (Or.inr hne) H_allnan
  · intro g _ hall
    rw [hnil g hall, hfill]
    rfl
  · intro hall h0 hf
    obtain ⟨g, hg, hg0⟩ := H_somelabel (hfill ▸ hf) h0
    obtain ⟨q, hq, hgq⟩ := (mem_catC g segs).mp hg
    refine hall q hq g.toNat ((Int.toNat_lt hg0).mpr (hcodes g hg).2) ((natCast_mem_labelsOf c.sort q.1 _).mpr ?_)
    rw [Int.ofNat_eq_natCast, Int.toNat_of_nonneg hg0]
    exact hgq

theorem runKnown_blockwise_slots (R : Resolved) (s : Shape) (c : Call) (n : Nat) (floatData : Bool)
    (chunks : List Nat) (codes : List Int) (vals : List Val)
    (hR : c.R = R) (heng : c.eng = .npg) (hn : c.ngroups = n) (hs : s.Fits R)
    (hcodes : CodesOK codes n) (hlen : codes.length = vals.length)
    (hsum : chunks.sum = codes.length) (hpos : ∀ k ∈ chunks, 0 < k)
    (hone : EachLabelInOneBlock chunks codes)
    (hfill : c.fillArg = R.userFill) (H_allnan : HAllNaN R s)
    (H_dropped : HDropped R (segsOf chunks codes vals)) (H_somelabel : HSomeLabel R codes n) :
    runKnown c (.blockwise false) floatData chunks (codeKeys codes) vals
      = (List.range n).mapM fun (g : Nat) => specSlot R s.kernel (members (Int.ofNat g) codes vals) := by
  have hne := segsOf_fst_ne_nil chunks codes vals (Nat.le_of_eq hsum) hpos
  have hper : ((segsOf chunks codes vals).map fun p =>
      finalizeResults { c.R with finalize := "none" }
        (chunkReduce .npg c.R.numpy c.R.numpyFills (codeKeys p.1) p.2 none c.sort) none false)
      = (segsOf chunks codes vals).map fun p =>
          unitOut (fun ℓ => eagerSlot R (keyMembers (some ℓ) p.1 p.2)) (labelsOf c.sort p.1) := by
    apply List.map_congr_left
    intro p hp
    subst hR
    exact block_result c.R s hs c.sort p.1 p.2 (hne p hp)
  have hdisj : DisjointBlocks ((segsOf chunks codes vals).map (·.1)) := by
    rw [segsOf_map_fst]
    exact hone
  rw [runKnown_blockwise_eq, heng, hper]
  exact blockwise_segs R s c n (segsOf chunks codes vals) codes vals (segsOf_catC chunks codes vals (Nat.le_of_eq hsum.symm))
    (segsOf_catV chunks codes vals (Nat.le_of_eq (hlen ▸ hsum.symm))) hn hs (segsOf_aligned chunks codes vals hlen) hdisj hcodes hfill
    H_allnan H_dropped H_somelabel

/-- `method="blockwise"` (no reindexing at the block stage), end to end.  When every group lies within one block (and
    no block is empty), reducing every block on its own, concatenating the per-block results (sorted by label when
    `sort=True`), dropping the repeated `-1` group and reindexing to the expected groups gives the specification. -/
theorem blockwise_eq_spec (R : Resolved) (s : Shape) (c : Call) (n : Nat) (floatData : Bool)
    (chunks : List Nat) (codes : List Int) (vals : List Val)
    (hR : c.R = R) (heng : c.eng = .npg) (hn : c.ngroups = n) (_hknown : c.knownLabels = true)
    (hshape : R.shape? = some s) (hcodes : CodesOK codes n) (hlen : codes.length = vals.length)
    (hsum : chunks.sum = codes.length) (hpos : ∀ k ∈ chunks, 0 < k)
    (hone : EachLabelInOneBlock chunks codes)
    (hfill : c.fillArg = R.userFill) (H_allnan : HAllNaN R s)
    (H_dropped : HDropped R (segsOf chunks codes vals)) (H_somelabel : HSomeLabel R codes n) :
    runKnown c (.blockwise false) floatData chunks (codeKeys codes) vals = specResult s.kernel R codes vals n := by
  have hs := (R.shape?_eq_some_iff s).mp hshape
  rw [runKnown_blockwise_slots R s c n floatData chunks codes vals hR heng hn hs hcodes hlen hsum hpos hone hfill
    H_allnan H_dropped H_somelabel, specResult_slots hs]

/-- `method="blockwise"` = eager path (the eager path additionally needs `H_absent`: it fills absent labels through
    the count mask only) -/
theorem blockwise_eq_eager (R : Resolved) (s : Shape) (c : Call) (n : Nat) (floatData : Bool)
    (chunks chunks' : List Nat) (codes : List Int) (vals : List Val)
    (hR : c.R = R) (heng : c.eng = .npg) (hn : c.ngroups = n) (hknown : c.knownLabels = true)
    (hshape : R.shape? = some s) (hcodes : CodesOK codes n) (hlen : codes.length = vals.length)
    (hsum : chunks.sum = codes.length) (hpos : ∀ k ∈ chunks, 0 < k)
    (hone : EachLabelInOneBlock chunks codes)
    (hfill : c.fillArg = R.userFill) (H_allnan : HAllNaN R s)
    (H_dropped : HDropped R (segsOf chunks codes vals)) (H_somelabel : HSomeLabel R codes n)
    (H_absent : ∀ g : Nat, g < n → HAbsent R (members (Int.ofNat g) codes vals)) :
    runKnown c (.blockwise false) floatData chunks (codeKeys codes) vals
      = runKnown c .eager floatData chunks' (codeKeys codes) vals := by
  rw [blockwise_eq_spec R s c n floatData chunks codes vals hR heng hn hknown hshape hcodes hlen hsum hpos hone hfill
      H_allnan H_dropped H_somelabel,
    eager_eq_spec R s c n floatData chunks' codes vals hR heng hn hknown hshape hcodes hlen H_absent H_allnan]

theorem finalReindex_flag (c : Call) (gs : List Key) (vs : List Val) (h : ∀ g ∈ gs, g ≠ some (-1)) :
    finalReindex c true gs vs = finalReindex c false gs vs := by
  have : gs.filter (· = some (-1)) = [] := by
    rw [List.filter_eq_nil_iff]
    intro g hg
    simpa using h g hg
  rw [finalReindex_eq c true gs vs (by simp [this]), finalReindex_eq c false gs vs rfl]

/-- `.blockwise true` on a single block that holds the whole input = eager path, for every blueprint, engine and input
    (with more than one block the model returns `ValueError`: see `BWEx.blockwise_true_two_blocks`). -/
theorem blockwise_single_eq_eager (c : Call) (floatData : Bool) (m : Nat) (chunks' : List Nat) (keys : List Key)
    (vals : List Val) (hk : keys.length ≤ m) (hv : vals.length ≤ m) :
    runKnown c (.blockwise true) floatData [m] keys vals = runKnown c .eager floatData chunks' keys vals := by
  simp only [runKnown, splitBy, List.take_of_length_le hk, List.take_of_length_le hv, List.zip_cons_cons,
    List.zip_nil_right, List.map_cons, List.map_nil, if_true, mapM_except_cons, List.mapM_nil]
  cases hfr : finalizeResults { c.R with finalize := "none" }
      (chunkReduce c.eng c.R.numpy c.R.numpyFills keys vals (some c.ngroups) c.sort)
      (some (rangeKeys c.ngroups)) true with
  | error e => rfl
  | ok r =>
    obtain ⟨gs, vs⟩ := r
    have hg := finalizeResults_groups_kept _ _ _ gs vs hfr
    rw [chunkReduce_groups_expected] at hg
    subst hg
    simp only [pure, Except.pure]
    exact finalReindex_flag c _ vs (rangeKeys_ne_m1 c.ngroups)

theorem chunkReduce_expected_sort (eng : Eng) (ks : List Kernel) (fills : List Val) (keys : List Key)
    (vals : List Val) (n : Nat) (b b' : Bool) :
    chunkReduce eng ks fills keys vals (some n) b = chunkReduce eng ks fills keys vals (some n) b' := rfl

theorem runKnown_blockwise_flox (c : Call) (rb : Bool) (floatData : Bool) (chunks : List Nat) (keys : List Key)
    (vals : List Val)
    (heng : c.eng = .flox)
    (hks : ∀ p ∈ c.R.numpy.zip c.R.numpyFills, floxAgreesAt p.1 p.2)
    (hz : ∀ p ∈ c.R.numpy.zip c.R.numpyFills, (p.1 = .nanlen ∨ p.1 = .nansumsq) → p.2 = Val.zero)
    (hlen : keys.length = vals.length) :
    runKnown c (.blockwise rb) floatData chunks keys vals
      = runKnown c.withNpg (.blockwise rb) floatData chunks keys vals := by
  simp only [runKnown]
  have hper : ∀ (F : Inter → Except String (List Key × List Val)),
      ((splitBy chunks keys).zip (splitBy chunks vals)).map (fun (p : List Key × List Val) =>
          F (chunkReduce c.eng c.R.numpy c.R.numpyFills p.1 p.2 (if rb then some c.ngroups else none) c.sort))
        = ((splitBy chunks keys).zip (splitBy chunks vals)).map (fun (p : List Key × List Val) =>
          F (chunkReduce .npg c.R.numpy c.R.numpyFills p.1 p.2 (if rb then some c.ngroups else none) c.sort)) := by
    intro F
    apply List.map_congr_left
    intro p hp
    rw [heng, chunkReduce_flox _ _ _ _ _ _ hks hz (splitBy_zip_aligned chunks keys vals hlen p hp)]
  have := hper (fun x => finalizeResults { c.R with finalize := "none" } x
    (if rb then some (rangeKeys c.ngroups) else none) rb)
  simp only at this
  rw [this]
  rfl

/-- `method="blockwise"` = specification with flox's own engine (`hmean`: for the `mean` shapes the NumPy fill must be
    NaN, as in `eager_eq_spec_flox`) -/
theorem blockwise_eq_spec_flox (R : Resolved) (s : Shape) (c : Call) (n : Nat) (floatData : Bool)
    (chunks : List Nat) (codes : List Int) (vals : List Val)
    (hR : c.R = R) (heng : c.eng = .flox) (hn : c.ngroups = n) (hknown : c.knownLabels = true)
    (hshape : R.shape? = some s) (hmean : HFloxMean R s)
    (hcodes : CodesOK codes n) (hlen : codes.length = vals.length)
    (hsum : chunks.sum = codes.length) (hpos : ∀ k ∈ chunks, 0 < k)
    (hone : EachLabelInOneBlock chunks codes)
    (hfill : c.fillArg = R.userFill) (H_allnan : HAllNaN R s)
    (H_dropped : HDropped R (segsOf chunks codes vals)) (H_somelabel : HSomeLabel R codes n) :
    runKnown c (.blockwise false) floatData chunks (codeKeys codes) vals = specResult s.kernel R codes vals n := by
  have hs := (R.shape?_eq_some_iff s).mp hshape
  subst hR
  rw [runKnown_blockwise_flox c false floatData chunks _ vals heng (hs.numpy_floxAgrees hmean) hs.numpy_zero
    (by rw [codeKeys_length, hlen])]
  exact blockwise_eq_spec c.R s c.withNpg n floatData chunks codes vals rfl rfl hn hknown hshape hcodes hlen hsum hpos
    hone hfill H_allnan H_dropped H_somelabel

end BW
end Flox
