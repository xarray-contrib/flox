/-
  C19: properties of the validation chain `Decisions.core`.

  That no internal error can come out of the chain is read off its shape (`core_clean`).  What depends on how the
  guards interact (`planSound`, auto plan vs. map-reduce) is proved by evaluating `core` in the kernel over the finite
  abstract cell (`check_families`), once per cell, leaving out of the enumeration the fields `core` does not read
  there.  Kept apart from `FloxProofs/Decisions.lean` so that a regenerated table does not re-run that evaluation.
-/
import FloxModel.Decisions

namespace Flox.Decisions

/-- neither an `AssertionError` nor an unclassified exception -/
def Res.Clean {α} (r : Res α) : Prop := r ≠ .err .assertion ∧ r ≠ .err .other

namespace Res
variable {α β : Type}

theorem clean_ok (a : α) : (ok a).Clean := by simp [Clean]
theorem clean_valueError : (err .valueError : Res α).Clean := by simp [Clean]
theorem clean_notImplemented : (err .notImplemented : Res α).Clean := by simp [Clean]

theorem clean_ite {c : Prop} [Decidable c] {a b : Res α} (ha : a.Clean) (hb : b.Clean) :
    (if c then a else b).Clean := by
  split <;> assumption

theorem clean_bind {r : Res α} {f : α → Res β} (hr : r.Clean) (hf : ∀ a, (f a).Clean) : (r.bind f).Clean := by
  cases r with
  | err e => exact ⟨fun h => hr.1 (by simpa [bind] using h), fun h => hr.2 (by simpa [bind] using h)⟩
  | ok a => exact hf a

theorem bind_eq_ok {r : Res α} {f : α → Res β} {b : β} : r.bind f = ok b ↔ ∃ a, r = ok a ∧ f a = ok b := by
  cases r <;> simp [bind]

theorem isOk_bind_ok (r : Res α) (f : α → β) : (r.bind fun a => ok (f a)).isOk = r.isOk := by
  cases r <;> rfl

end Res

theorem validateReindex_clean
    (reindex : Option Bool) (k : FuncClass) (method : Option Method) (expected byDask arrDask isFloat : Bool) :
    validateReindex reindex k method expected byDask arrDask isFloat ≠ .err .assertion ∧
    validateReindex reindex k method expected byDask arrDask isFloat ≠ .err .other :=
  Res.clean_ite Res.clean_notImplemented <| Res.clean_ite Res.clean_valueError <|
    Res.clean_ite Res.clean_valueError (Res.clean_ok _)

theorem chooseMethod_clean (method : Option Method) (preferred : Method) (chunkNone naxEqNdim isArg : Bool) :
    (chooseMethod method preferred chunkNone naxEqNdim isArg).Clean := by
  cases method with
  | some m => exact Res.clean_ok m
  | none =>
    exact Res.clean_ite (Res.clean_ite Res.clean_valueError (Res.clean_ok _)) <|
      Res.clean_ite (Res.clean_ok _) <| Res.clean_ite (Res.clean_ok _) (Res.clean_ok _)

/-- no assertion can fail anywhere in the chain: every leaf of `core` is an accepted plan, a `ValueError` or a
    `NotImplementedError` -/
theorem core_clean (c : CoreCell) : (core c).Clean := by
  simp only [core]
  repeat' first | apply Res.clean_ite | apply Res.clean_bind | intro _
  all_goals first
    | exact validateReindex_clean ..
    | exact chooseMethod_clean ..
    | exact Res.clean_valueError
    | exact Res.clean_notImplemented
    | exact Res.clean_ok _

/-! A statement `∀ x y …, p x y … = true` over the finite argument types is proved by evaluating the Boolean
  `X.all.all fun x => Y.all.all fun y => … p x y …` in the kernel (`decide +kernel`) and unfolding it with the
  `forall_*` lemmas below. -/

def allBool : List Bool := [false, true]
def allMethod : List Method := [.mapReduce, .blockwise, .cohorts]
def allOptMethod : List (Option Method) := [none, some .mapReduce, some .blockwise, some .cohorts]
def allOptBool : List (Option Bool) := [none, some true, some false]
def allAxisRel : List AxisRel := [.oneOfOne, .allMany, .oneOfMany, .someOfMany, .tooMany, .zero]
def allFuncClass : List FuncClass := [.arg, .first, .nanfirst, .blockwiseOnly, .plain]
def allFuncKind : List FuncKind :=
  [.arg, .nanarg, .first, .nanfirst, .median, .nanmedian, .quantile, .nanquantile, .mode, .nanmode, .anyall, .nanskip, .plain]

theorem forall_bool {p : Bool → Bool} (h : allBool.all p = true) (x : Bool) : p x = true :=
  List.all_eq_true.mp h x (by cases x <;> simp [allBool])
theorem forall_method {p : Method → Bool} (h : allMethod.all p = true) (x : Method) : p x = true :=
  List.all_eq_true.mp h x (by cases x <;> simp [allMethod])
theorem forall_optMethod {p : Option Method → Bool} (h : allOptMethod.all p = true) (x : Option Method) : p x = true :=
  List.all_eq_true.mp h x (by
    cases x with
    | none => simp [allOptMethod]
    | some m => cases m <;> simp [allOptMethod])
theorem forall_optBool {p : Option Bool → Bool} (h : allOptBool.all p = true) (x : Option Bool) : p x = true :=
  List.all_eq_true.mp h x (by
    cases x with
    | none => simp [allOptBool]
    | some m => cases m <;> simp [allOptBool])
theorem forall_axisRel {p : AxisRel → Bool} (h : allAxisRel.all p = true) (x : AxisRel) : p x = true :=
  List.all_eq_true.mp h x (by cases x <;> simp [allAxisRel])
theorem forall_funcClass {p : FuncClass → Bool} (h : allFuncClass.all p = true) (x : FuncClass) : p x = true :=
  List.all_eq_true.mp h x (by cases x <;> simp [allFuncClass])
theorem forall_funcKind {p : FuncKind → Bool} (h : allFuncKind.all p = true) (x : FuncKind) : p x = true :=
  List.all_eq_true.mp h x (by cases x <;> simp [allFuncKind])

def mkCore (kind : FuncClass) (method : Option Method) (reindex : Option Bool) (byDask arrDask : Bool) (ax : AxisRel)
    (expected isFloat : Bool) (preferred : Method) (cohortsEmpty singleBlock : Bool) : CoreCell :=
  { kind, method, reindex, byDask, arrDask, ax, expected, isFloat, preferred, cohortsEmpty, singleBlock, aligned := true }

/-- what `core` hands to graph construction satisfies every strategy-specific precondition -/
def planSound (c : CoreCell) (m : Option Method) (b : Option Bool) : Bool :=
  -- cohorts never with blockwise reindexing; blockwise reindexing only with known labels
  !(m = some .cohorts && b = some true) &&
  !(b = some true && c.byDask && !c.expected && m ≠ none) &&
  -- arg-reductions: never reindexed blockwise on dask input (except under an explicit blockwise plan with dask labels,
  -- which reindexes every block and is accepted on a single block only), blockwise plan only on a single block
  !(c.kind.isArg && m ≠ none && b = some true && !(m = some .blockwise && c.byDask)) &&
  !(c.kind.isArg && m = some .blockwise && !c.singleBlock) &&
  -- reductions without a chunk function only blockwise; subsets of the label axes only under map-reduce
  !(c.kind.chunkNone && m ≠ none && m ≠ some .blockwise) &&
  !(!c.ax.naxEqNdim && (m = some .blockwise || m = some .cohorts)) &&
  -- a blockwise plan reindexes every block to the expected groups only on a single block along the reduced axes, and
  -- with dask labels it always does so (the groups of a block cannot be found from lazy labels)
  !(m = some .blockwise && b = some true && !c.singleBlock) &&
  !(m = some .blockwise && c.byDask && b ≠ some true) &&
  -- a dask plan always has a definite reindex flag
  !(m ≠ none && b = none) &&
  -- an explicit method is honoured, except cohorts falling back to map-reduce when there is nothing to split
  (match c.method, m with
   | some um, some rm => um = rm || (um = .cohorts && rm = .mapReduce && c.cohortsEmpty)
   | _, _ => true)

/-- `some (core c).isOk` if the plan `core c` accepts, if any, is sound; `none` otherwise -/
def soundOk (c : CoreCell) : Option Bool :=
  match core c with
  | .ok (m, b) => if planSound c m b then some true else none
  | .err _ => some false

theorem soundOk_eq_some {c : CoreCell} {ok : Bool} (h : soundOk c = some ok) :
    (core c).isOk = ok ∧ ∀ m b, core c = .ok (m, b) → planSound c m b = true := by
  unfold soundOk at h
  split at h
  next m b hc =>
    rw [hc]
    split at h
    · exact ⟨by simpa [Res.isOk] using h, by simp_all⟩
    · simp at h
  next e hc => rw [hc]; exact ⟨by simpa [Res.isOk] using h, by simp⟩

/-! Fields that need not be enumerated: `core` consults the planner's answer (`preferred`, `cohortsEmpty`) only where
  the code calls `find_group_cohorts`, and reads `isFloat` only through `k.isFirstLast && !isFloat`, which matters for
  nanfirst / nanlast alone. -/

/-- `callsCohorts` of `core` -/
def consultsPlanner (c : CoreCell) : Bool := (!c.byDask && c.method = none) || c.method = some .cohorts

theorem core_planner_irrelevant (c : CoreCell) (h : consultsPlanner c = false) (p : Method) (ce : Bool) :
    core { c with preferred := p, cohortsEmpty := ce } = core c := by
  unfold consultsPlanner at h
  simp only [core, h]
  rfl

theorem soundOk_planner_irrelevant (c : CoreCell) (h : consultsPlanner c = false) (p : Method) (ce : Bool) :
    soundOk { c with preferred := p, cohortsEmpty := ce } = soundOk c := by
  have hm : c.method ≠ some .cohorts := fun hm => by simp [consultsPlanner, hm] at h
  have hps : ∀ m b, planSound { c with preferred := p, cohortsEmpty := ce } m b = planSound c m b := fun m b => by
    unfold planSound
    congr 1
    rcases hcm : c.method with _ | _ | _ | _ <;> cases m <;> first | rfl | exact absurd hcm hm | simp
  unfold soundOk
  rw [core_planner_irrelevant c h]
  simp only [hps]

theorem validateReindex_isFloat {k : FuncClass} (hk : k ≠ .nanfirst) (r : Option Bool) (m : Option Method)
    (e b a f f' : Bool) : validateReindex r k m e b a f = validateReindex r k m e b a f' := by
  cases k <;> first | rfl | exact absurd rfl hk

theorem resolveReindex_isFloat {k : FuncClass} (hk : k ≠ .nanfirst) (r : Option Bool) (m : Option Method)
    (e b a f f' : Bool) : resolveReindex r k m e b a f = resolveReindex r k m e b a f' := by
  cases k <;> first | rfl | exact absurd rfl hk

theorem soundOk_isFloat_irrelevant (c : CoreCell) (h : c.kind ≠ .nanfirst) (f : Bool) :
    soundOk { c with isFloat := f } = soundOk c := by
  have hc : core { c with isFloat := f } = core c := by
    simp only [core, validateReindex_isFloat h _ _ _ _ _ f c.isFloat, resolveReindex_isFloat h _ _ _ _ _ f c.isFloat]
  unfold soundOk
  rw [hc]
  rfl

/-- the values of `isFloat` to enumerate for a class of reductions -/
def floatsOf : FuncClass → List Bool
  | .nanfirst => allBool
  | _ => [true]

theorem forall_floats {k : FuncClass} {p : Bool → Bool} (h : (floatsOf k).all p = true) (f : Bool)
    (hf : k = .nanfirst ∨ f = true) : p f = true := by
  rcases hf with rfl | rfl
  · exact forall_bool h f
  · cases k <;> first | exact forall_bool h true | simpa [floatsOf] using h

/-- the auto plan is sound, accepted where map-reduce is (`mr`), and only there unless the reduction has no chunk
    function -/
def autoOk (mr : Bool) (c : CoreCell) : Bool :=
  match soundOk c with
  | some auto => (!mr || auto) && (c.kind.chunkNone || !auto || mr)
  | none => false

/-- the cells that differ from `c` in `method` and in the planner's answer only.  The `match`es make the kernel
    evaluate `core` once per cell and hand on evaluated Booleans; the explicit plans are evaluated once for all answers
    of the planner. -/
def familyOk (c : CoreCell) : Bool :=
  match soundOk { c with method := some .mapReduce }, soundOk { c with method := some .blockwise } with
  | some mr, some _ =>
    allMethod.all fun p => allBool.all fun ce =>
      autoOk mr { c with method := none, preferred := p, cohortsEmpty := ce } &&
      (soundOk { c with method := some .cohorts, preferred := p, cohortsEmpty := ce }).isSome
  | _, _ => false

theorem check_families :
    (allFuncClass.all fun k => allOptBool.all fun r => allBool.all fun bd => allBool.all fun ad =>
      allAxisRel.all fun ax => allBool.all fun e => (floatsOf k).all fun f => allBool.all fun sb =>
      familyOk (mkCore k none r bd ad ax e f .mapReduce true sb)) = true := by
  decide +kernel

/-- on aligned input, under each of the four settings of `method`: every accepted plan is sound (`soundOk … = some _`),
    and the auto plan is accepted exactly where map-reduce is, unless the reduction has no chunk function -/
def FamilyFacts (c : CoreCell) : Prop :=
  ∃ auto mr bw co, soundOk { c with method := none } = some auto ∧
    soundOk { c with method := some .mapReduce } = some mr ∧ soundOk { c with method := some .blockwise } = some bw ∧
    soundOk { c with method := some .cohorts } = some co ∧
    (mr = true → auto = true) ∧ (c.kind.chunkNone = false → auto = true → mr = true)

theorem family_facts_of_enumerated (c : CoreCell) (hal : c.aligned = true) (hfl : c.kind = .nanfirst ∨ c.isFloat = true) :
    FamilyFacts c := by
  have hf := forall_bool (forall_floats (forall_bool (forall_axisRel (forall_bool (forall_bool (forall_optBool
    (forall_funcClass check_families c.kind) c.reindex) c.byDask) c.arrDask) c.ax) c.expected) c.isFloat hfl)
    c.singleBlock
  -- the explicit plans do not consult the planner: its answer may be put back
  have hexp : ∀ m, m = Method.mapReduce ∨ m = Method.blockwise →
      soundOk { mkCore c.kind none c.reindex c.byDask c.arrDask c.ax c.expected c.isFloat .mapReduce true c.singleBlock
        with method := some m } = soundOk { c with method := some m } := fun m hm => by
    rw [← soundOk_planner_irrelevant _ (by rcases hm with rfl | rfl <;> simp [consultsPlanner, mkCore]) c.preferred
      c.cohortsEmpty]
    cases c; simp_all [mkCore]
  unfold familyOk at hf
  rw [hexp _ (Or.inl rfl), hexp _ (Or.inr rfl)] at hf
  split at hf
  next mr bw hmr hbw =>
    have := forall_bool (forall_method hf c.preferred) c.cohortsEmpty
    have hc : ∀ um, { mkCore c.kind none c.reindex c.byDask c.arrDask c.ax c.expected c.isFloat .mapReduce true
        c.singleBlock with method := um, preferred := c.preferred, cohortsEmpty := c.cohortsEmpty }
          = { c with method := um } := fun um => by cases c; simp_all [mkCore]
    rw [hc, hc, Bool.and_eq_true, Option.isSome_iff_exists] at this
    obtain ⟨hauto, co, hco⟩ := this
    unfold autoOk at hauto
    split at hauto
    next auto ha =>
      refine ⟨auto, mr, bw, co, ha, hmr, hbw, hco, ?_⟩
      revert hauto
      cases auto <;> cases mr <;> cases c.kind.chunkNone <;> simp
    next => exact absurd hauto (by decide)
  next => exact absurd hf (by decide)

theorem family_facts (c : CoreCell) (hal : c.aligned = true) : FamilyFacts c := by
  by_cases hk : c.kind = .nanfirst
  · exact family_facts_of_enumerated c hal (Or.inl hk)
  · -- `isFloat` is not read: the facts of the cell with `isFloat := true` are those of `c`
    obtain ⟨auto, mr, bw, co, h1, h2, h3, h4, h5⟩ :=
      family_facts_of_enumerated { c with isFloat := true } hal (Or.inr rfl)
    have hc : ∀ um, soundOk { { c with isFloat := true } with method := um } = soundOk { c with method := um } :=
      fun um => soundOk_isFloat_irrelevant { c with method := um } hk true
    rw [hc] at h1 h2 h3 h4
    exact ⟨auto, mr, bw, co, h1, h2, h3, h4, h5⟩

/-- a cell with more reduced axes than label dimensions is refused with ValueError (formerly `assert nax <= by_.ndim`,
    finding C19-F6) -/
theorem core_too_many_axes_refused :
    core (mkCore .plain none none false false .tooMany false true .mapReduce true true) = .err .valueError := by
  decide +kernel

theorem core_plan_sound (c : CoreCell) (hal : c.aligned = true) (m : Option Method) (b : Option Bool)
    (h : core c = .ok (m, b)) : planSound c m b = true := by
  obtain ⟨_, _, _, _, hauto, hmr, hbw, hco, _⟩ := family_facts c hal
  have hc : ∀ um ok, c.method = um → soundOk { c with method := um } = some ok → planSound c m b = true :=
    fun um ok hum hs => by subst hum; exact (soundOk_eq_some hs).2 m b h
  rcases hm : c.method with _ | _ | _ | _
  · exact hc _ _ hm hauto
  · exact hc _ _ hm hmr
  · exact hc _ _ hm hbw
  · exact hc _ _ hm hco

/-- the auto plan is accepted exactly where map-reduce is, except that reductions without a chunk function (which the
    auto plan runs blockwise) may be accepted by the auto plan alone -/
theorem core_auto_vs_mapreduce (c : CoreCell) (hal : c.aligned = true) :
    ((core { c with method := some .mapReduce }).isOk = true → (core { c with method := none }).isOk = true) ∧
    (c.kind.chunkNone = false → (core { c with method := none }).isOk = true →
      (core { c with method := some .mapReduce }).isOk = true) := by
  obtain ⟨_, _, _, _, hauto, hmr, _, _, h⟩ := family_facts c hal
  rw [(soundOk_eq_some hauto).1, (soundOk_eq_some hmr).1]
  exact h

end Flox.Decisions
