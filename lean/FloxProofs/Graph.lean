/-
  Proofs about the generic task-graph model (FloxModel/Graph.lean): schedules of pure tasks.

  `Computes g m k v`: the task stored under `k` finds its dependencies in `m` and returns `v`; `step` stores exactly such
  a value.  A memo is `Consistent` when each of its entries is computed from the memo itself (a partial solution): every
  loss-free schedule keeps that, it makes re-execution a no-op, and with every key present it is `Solution`.  What a
  schedule computes agrees (`Agree`) with every consistent memo, hence with what any other schedule computes, and, even
  when results are lost on the way, is part (`Sub`) of every solution.
-/
import FloxModel.Graph

namespace Flox.Graph

variable {K V : Type}

def Agree (m₁ m₂ : Memo K V) : Prop := ∀ k v₁ v₂, m₁ k = some v₁ → m₂ k = some v₂ → v₁ = v₂

def Sub (m₁ m₂ : Memo K V) : Prop := ∀ k v, m₁ k = some v → m₂ k = some v

/-- `Replays seen o o'`: the schedule `o'` is the schedule `o` with extra executions inserted, each of a key that has
    been executed before that position (`seen` = keys already present when the schedules start) -/
inductive Replays : List K → List K → List K → Prop where
  | nil (seen) : Replays seen [] []
  | keep (seen k o o') : Replays (k :: seen) o o' → Replays seen (k :: o) (k :: o')
  | again (seen k o o') : k ∈ seen → Replays seen o o' → Replays seen o (k :: o')

variable {g : Graph K V} {m m' m₁ m₂ r den : Memo K V} {k k' : K} {v : V} {o : List K}

theorem agree_empty (m : Memo K V) : Agree (Memo.empty : Memo K V) m := fun _ _ _ h => nomatch h

theorem sub_empty (m : Memo K V) : Sub (Memo.empty : Memo K V) m := fun _ _ h => nomatch h

theorem agree_refl (m : Memo K V) : Agree m m := fun _ _ _ h₁ h₂ => Option.some.inj (h₁.symm.trans h₂)

theorem Sub.agree (hs : Sub m₁ m₂) : Agree m₁ m₂ :=
  fun k v₁ _ h₁ h₂ => Option.some.inj ((hs k v₁ h₁).symm.trans h₂)

theorem Sub.trans {m₃ : Memo K V} (h₁ : Sub m₁ m₂) (h₂ : Sub m₂ m₃) : Sub m₁ m₃ := fun k v h => h₂ k v (h₁ k v h)

theorem Sub.isSome (hs : Sub m₁ m₂) (h : (m₁ k).isSome) : (m₂ k).isSome := by
  obtain ⟨v, hv⟩ := Option.isSome_iff_exists.mp h
  simp [hs k v hv]

theorem memo_ext_of_agree (ha : Agree m₁ m₂) (hd : ∀ k, (m₁ k).isSome ↔ (m₂ k).isSome) : m₁ = m₂ := by
  funext k
  have hk := hd k
  cases h₁ : m₁ k <;> cases h₂ : m₂ k <;> simp [h₁, h₂] at hk ⊢
  exact ha k _ _ h₁ h₂

theorem fetch_cons_eq_some {d : K} {ds : List K} {vs : List V} :
    fetch m (d :: ds) = some vs ↔ ∃ v vs', m d = some v ∧ fetch m ds = some vs' ∧ vs = v :: vs' := by
  rw [fetch]
  cases m d with
  | none => simp
  | some v => cases fetch m ds <;> simp [eq_comm]

theorem fetch_sub (hs : Sub m₁ m₂) {deps : List K} {vs : List V}
    (h : fetch m₁ deps = some vs) : fetch m₂ deps = some vs := by
  induction deps generalizing vs with
  | nil => exact h
  | cons d ds ih =>
    obtain ⟨v, vs', h₁, h₂, rfl⟩ := fetch_cons_eq_some.mp h
    exact fetch_cons_eq_some.mpr ⟨v, vs', hs d v h₁, ih h₂, rfl⟩

theorem fetch_agree (ha : Agree m₁ m₂) {deps : List K} {vs₁ vs₂ : List V}
    (h₁ : fetch m₁ deps = some vs₁) (h₂ : fetch m₂ deps = some vs₂) : vs₁ = vs₂ := by
  induction deps generalizing vs₁ vs₂ with
  | nil => exact Option.some.inj (h₁.symm.trans h₂)
  | cons d ds ih =>
    obtain ⟨v, vs', a₁, a₂, rfl⟩ := fetch_cons_eq_some.mp h₁
    obtain ⟨w, ws', b₁, b₂, rfl⟩ := fetch_cons_eq_some.mp h₂
    rw [ha d v w a₁ b₁, ih a₂ b₂]

theorem replays_refl (seen o : List K) : Replays seen o o := by
  induction o generalizing seen with
  | nil => exact .nil seen
  | cons k ks ih => exact .keep seen k ks ks (ih (k :: seen))

theorem replays_prefix {seen o o' : List K} (p : List K) (h : Replays (p.reverse ++ seen) o o') :
    Replays seen (p ++ o) (p ++ o') := by
  induction p generalizing seen with
  | nil => exact h
  | cons a p ih => exact .keep seen a _ _ (ih (by simpa using h))

theorem replays_extra {seen : List K} (extra : List K) (h : ∀ k ∈ extra, k ∈ seen) : Replays seen [] extra := by
  induction extra with
  | nil => exact .nil seen
  | cons e es ih =>
    exact .again seen e [] es (h e List.mem_cons_self) (ih fun k hk => h k (List.mem_cons_of_mem e hk))

theorem Task.ext {t₁ t₂ : Task K V} (hd : t₁.deps = t₂.deps) (hf : ∀ xs, t₁.fn xs = t₂.fn xs) : t₁ = t₂ := by
  cases t₁; cases t₂
  cases hd; cases (funext hf : _ = _)
  rfl

theorem ship_eq_self {rt : K → Task K V → Task K V} (hf : Faithful rt) (g : Graph K V) : ship rt g = g :=
  List.map_id'' (fun (k, t) => congrArg (Prod.mk k) (Task.ext (hf k t).1 (hf k t).2)) g

variable [DecidableEq K]

def Computes (g : Graph K V) (m : Memo K V) (k : K) (v : V) : Prop :=
  ∃ t vs, g.lookup k = some t ∧ fetch m t.deps = some vs ∧ v = t.fn vs

def Consistent (g : Graph K V) (m : Memo K V) : Prop := ∀ k v, m k = some v → Computes g m k v

@[simp] theorem Memo.empty_apply (k : K) : (Memo.empty : Memo K V) k = none := rfl
@[simp] theorem Memo.set_self (m : Memo K V) (k : K) (v : V) : m.set k v k = some v := by simp [Memo.set]
theorem Memo.set_other (m : Memo K V) (v : V) (h : k' ≠ k) : m.set k v k' = m k' := by simp [Memo.set, h]
@[simp] theorem Memo.erase_self (m : Memo K V) (k : K) : m.erase k k = none := by simp [Memo.erase]
theorem Memo.erase_other (m : Memo K V) (h : k' ≠ k) : m.erase k k' = m k' := by simp [Memo.erase, h]

theorem Memo.set_eq_some {w : V} : m.set k v k' = some w ↔ (k' = k ∧ v = w) ∨ (k' ≠ k ∧ m k' = some w) := by
  by_cases h : k' = k <;> simp [Memo.set, h]

theorem Memo.set_eq_self (h : m k = some v) : m.set k v = m := by
  funext k'
  by_cases hk : k' = k
  · rw [hk, Memo.set_self, h]
  · exact Memo.set_other m v hk

theorem consistent_empty (g : Graph K V) : Consistent g (Memo.empty : Memo K V) := fun _ _ h => nomatch h

theorem Memo.erase_sub (m : Memo K V) (k : K) : Sub (m.erase k) m := by
  intro k' v h
  by_cases hk : k' = k
  · rw [hk, Memo.erase_self] at h; cases h
  · rwa [Memo.erase_other m hk] at h

theorem fetch_some_mem {m : Memo K V} : ∀ {deps : List K} {vs : List V}, fetch m deps = some vs →
    ∀ d ∈ deps, ∃ v, m d = some v
  | [], _, _, d, hd => by simp at hd
  | d' :: ds, vs, h, d, hd => by
    obtain ⟨v, vs', h₁, h₂, _⟩ := fetch_cons_eq_some.mp h
    rcases List.mem_cons.mp hd with rfl | hmem
    · exact ⟨v, h₁⟩
    · exact fetch_some_mem h₂ d hmem

theorem lookup_isSome_iff_mem_keys (g : Graph K V) (k : K) : (g.lookup k).isSome ↔ k ∈ g.keys := by
  simp [Graph.keys]

theorem Computes.mem_keys : Computes g m k v → k ∈ g.keys
  | ⟨_, _, hl, _⟩ => (lookup_isSome_iff_mem_keys g k).mp (by simp [hl])

theorem Computes.mono (hs : Sub m₁ m₂) : Computes g m₁ k v → Computes g m₂ k v
  | ⟨t, vs, hl, hf, hv⟩ => ⟨t, vs, hl, fetch_sub hs hf, hv⟩

/-- the one place where it matters that a task is a function of the values it reads -/
theorem Computes.agree {v₁ v₂ : V} (ha : Agree m₁ m₂) (h₁ : Computes g m₁ k v₁) (h₂ : Computes g m₂ k v₂) :
    v₁ = v₂ := by
  obtain ⟨t, vs₁, hl, hf₁, rfl⟩ := h₁
  obtain ⟨t', vs₂, hl', hf₂, rfl⟩ := h₂
  cases hl.symm.trans hl'
  rw [fetch_agree ha hf₁ hf₂]

theorem step_eq_some : step g m k = some m' ↔ ∃ v, Computes g m k v ∧ m' = m.set k v := by
  unfold step Computes
  cases g.lookup k with
  | none => simp
  | some t => cases hf : fetch m t.deps <;> simp [hf, eq_comm]

theorem Consistent.sub_set (hc : Consistent g m) (hv : Computes g m k v) : Sub m (m.set k v) := by
  intro d w hd
  refine Memo.set_eq_some.mpr ?_
  by_cases hdk : d = k
  · subst hdk; exact .inl ⟨rfl, hv.agree (agree_refl m) (hc d w hd)⟩
  · exact .inr ⟨hdk, hd⟩

theorem step_consistent (hc : Consistent g m) (h : step g m k = some m') : Consistent g m' := by
  obtain ⟨v, hv, rfl⟩ := step_eq_some.mp h
  have hsub := hc.sub_set hv
  intro k' w hk'
  rcases Memo.set_eq_some.mp hk' with ⟨rfl, rfl⟩ | ⟨_, hk'⟩
  · exact hv.mono hsub
  · exact (hc k' w hk').mono hsub

theorem step_agree (hc₂ : Consistent g m₂) (ha : Agree m m₂) (h : step g m k = some m') : Agree m' m₂ := by
  obtain ⟨v, hv, rfl⟩ := step_eq_some.mp h
  intro k' v₁ v₂ h₁ h₂
  rcases Memo.set_eq_some.mp h₁ with ⟨rfl, rfl⟩ | ⟨_, h₁⟩
  · exact hv.agree ha (hc₂ k' v₂ h₂)
  · exact ha k' v₁ v₂ h₁ h₂

theorem step_replay (hc : Consistent g m) (hk : m k = some v) : step g m k = some m :=
  step_eq_some.mpr ⟨v, hc k v hk, (Memo.set_eq_self hk).symm⟩

theorem step_dom (h : step g m k = some m') (k' : K) : (m' k').isSome ↔ ((m k').isSome ∨ k' = k) := by
  obtain ⟨v, _, rfl⟩ := step_eq_some.mp h
  by_cases hkk : k' = k
  · simp [hkk]
  · simp [Memo.set_other m v hkk, hkk]

theorem evalOrder_cons (g : Graph K V) (k : K) (ks : List K) (m : Memo K V) :
    evalOrder g (k :: ks) m = (step g m k).bind (evalOrder g ks) := by
  unfold evalOrder
  cases step g m k <;> rfl

theorem evalOrder_cons_eq_some {ks : List K} :
    evalOrder g (k :: ks) m = some r ↔ ∃ m', step g m k = some m' ∧ evalOrder g ks m' = some r := by
  rw [evalOrder_cons, Option.bind_eq_some_iff]

theorem evalOrder_append {g : Graph K V} : ∀ (o₁ o₂ : List K) (m : Memo K V),
    evalOrder g (o₁ ++ o₂) m = (evalOrder g o₁ m).bind (evalOrder g o₂)
  | [], o₂, m => rfl
  | k :: ks, o₂, m => by
    rw [List.cons_append, evalOrder_cons, evalOrder_cons, Option.bind_assoc]
    exact congrArg (step g m k).bind (funext (evalOrder_append ks o₂))

theorem eval_consistent (hc : Consistent g m) (h : evalOrder g o m = some r) : Consistent g r := by
  induction o generalizing m with
  | nil => exact Option.some.inj h ▸ hc
  | cons k ks ih =>
    obtain ⟨m', hs, hr⟩ := evalOrder_cons_eq_some.mp h
    exact ih (step_consistent hc hs) hr

theorem eval_agree (hc₂ : Consistent g m₂) (ha : Agree m m₂) (h : evalOrder g o m = some r) : Agree r m₂ := by
  induction o generalizing m with
  | nil => exact Option.some.inj h ▸ ha
  | cons k ks ih =>
    obtain ⟨m', hs, hr⟩ := evalOrder_cons_eq_some.mp h
    exact ih (step_agree hc₂ ha hs) hr

theorem eval_dom (h : evalOrder g o m = some r) (k' : K) : (r k').isSome ↔ ((m k').isSome ∨ k' ∈ o) := by
  induction o generalizing m with
  | nil => cases h; simp
  | cons k ks ih =>
    obtain ⟨m', hs, hr⟩ := evalOrder_cons_eq_some.mp h
    rw [ih hr, step_dom hs k', List.mem_cons, or_assoc]

theorem eval_complete (h : evalOrder g o m = some r) (hc : Complete g o) : ∀ k ∈ g.keys, (r k).isSome :=
  fun k hk => (eval_dom h k).mpr (.inr (hc k hk))

theorem solution_iff : Solution g den ↔ Consistent g den ∧ ∀ k ∈ g.keys, (den k).isSome := by
  -- both sides speak about each key separately
  simp only [← lookup_isSome_iff_mem_keys, Solution, Consistent, Computes, ← forall_and]
  refine forall_congr' fun k => ?_
  cases g.lookup k with
  | none => cases den k <;> simp
  | some t =>
    constructor
    · rintro ⟨vs, hf, hd⟩
      exact ⟨fun v hv => ⟨t, vs, rfl, hf, Option.some.inj (hv.symm.trans hd)⟩, fun _ => by simp [hd]⟩
    · rintro ⟨hc, hall⟩
      obtain ⟨v, hv⟩ := Option.isSome_iff_exists.mp (hall rfl)
      obtain ⟨_, vs, ht, hf, rfl⟩ := hc v hv
      cases ht
      exact ⟨vs, hf, hv⟩

theorem solution_dom (hs : Solution g den) (k : K) : (den k).isSome ↔ k ∈ g.keys := by
  obtain ⟨hc, hall⟩ := solution_iff.mp hs
  refine ⟨fun h => ?_, hall k⟩
  obtain ⟨v, hv⟩ := Option.isSome_iff_exists.mp h
  exact (hc k v hv).mem_keys

theorem Solution.computes (hs : Solution g den) (hv : Computes g den k v) : den k = some v := by
  obtain ⟨hc, hall⟩ := solution_iff.mp hs
  obtain ⟨w, hw⟩ := Option.isSome_iff_exists.mp (hall k hv.mem_keys)
  rw [hw, hv.agree (agree_refl den) (hc k w hw)]

theorem eval_replays {seen o o' : List K} (hr : Replays seen o o') : ∀ {m r : Memo K V},
    Consistent g m → (∀ k ∈ seen, (m k).isSome) → evalOrder g o m = some r → evalOrder g o' m = some r := by
  induction hr with
  | nil seen => intro m r _ _ h; exact h
  | keep seen k o o' _ ih =>
    intro m r hc hseen h
    obtain ⟨m', hs, hr'⟩ := evalOrder_cons_eq_some.mp h
    refine evalOrder_cons_eq_some.mpr ⟨m', hs, ih (step_consistent hc hs) (fun k' hk' => ?_) hr'⟩
    rw [step_dom hs k']
    exact (List.mem_cons.mp hk').symm.imp_left (hseen k')
  | again seen k o o' hk _ ih =>
    intro m r hc hseen h
    obtain ⟨v, hv⟩ := Option.isSome_iff_exists.mp (hseen k hk)
    exact evalOrder_cons_eq_some.mpr ⟨m, step_replay hc hv, ih hc hseen h⟩

theorem runOps_exec_cons (g : Graph K V) (k : K) (os : List (Op K)) (m : Memo K V) :
    runOps g (.exec k :: os) m = (step g m k).bind (runOps g os) := by
  rw [runOps]
  cases step g m k <;> rfl

theorem step_sub_solution (hs : Solution g den) (hsub : Sub m den) (h : step g m k = some m') : Sub m' den := by
  obtain ⟨v, hv, rfl⟩ := step_eq_some.mp h
  intro k' w hk'
  rcases Memo.set_eq_some.mp hk' with ⟨rfl, rfl⟩ | ⟨_, hk'⟩
  · exact hs.computes (hv.mono hsub)
  · exact hsub k' w hk'

theorem runOps_sub (hs : Solution g den) {ops : List (Op K)}
    (hsub : Sub m den) (h : runOps g ops m = some r) : Sub r den := by
  induction ops generalizing m with
  | nil => exact Option.some.inj h ▸ hsub
  | cons op os ih =>
    cases op with
    | lose k => exact ih ((m.erase_sub k).trans hsub) h
    | exec k =>
      obtain ⟨m', hst, h⟩ := Option.bind_eq_some_iff.mp (runOps_exec_cons g k os m ▸ h)
      exact ih (step_sub_solution hs hsub hst) h

theorem runOps_eq_solution (hs : Solution g den) {ops : List (Op K)}
    (h : runOps g ops Memo.empty = some m) (hall : ∀ k ∈ g.keys, (m k).isSome) : m = den := by
  have hsub := runOps_sub hs (sub_empty den) h
  exact memo_ext_of_agree hsub.agree fun k => ⟨hsub.isSome, fun hk => hall k ((solution_dom hs k).mp hk)⟩

theorem lookup_toI (g : Graph K V) (k : K) : (g.toI).lookup k = (g.lookup k).map Task.toI := by
  induction g with
  | nil => rfl
  | cons a g ih =>
    obtain ⟨k', t⟩ := a
    rw [Graph.toI, List.map_cons, List.lookup_cons, List.lookup_cons, ← Graph.toI, ih]
    cases k == k' <;> rfl

theorem istep_toI (g : Graph K V) (m : Memo K V) (k : K) : istep g.toI m k = step g m k := by
  unfold istep step
  rw [lookup_toI]
  cases g.lookup k with
  | none => rfl
  | some t =>
    simp only [Option.map_some, Task.toI]
    cases fetch m t.deps <;> rfl

theorem isSolutionOn_iff [DecidableEq V] (g : Graph K V) (den : Memo K V) (ks : List K) :
    isSolutionOn g den ks = true ↔ ∀ k ∈ ks, match g.lookup k with
      | none => den k = none
      | some t => ∃ vs, fetch den t.deps = some vs ∧ den k = some (t.fn vs) := by
  unfold isSolutionOn
  rw [List.all_eq_true]
  refine forall_congr' fun k => imp_congr_right fun _ => ?_
  cases g.lookup k with
  | none => simp
  | some t => cases hf : fetch den t.deps <;> simp [hf]

end Flox.Graph
