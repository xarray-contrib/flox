/-
  The end-to-end theorems with flox's own engine (`engine="flox"`): every kernel except `mean` / `nanmean` is either
  implemented by `aggregate_flox` and proved equal to the numpy_groupies wrapper (`floxGrouped_eq_npgGrouped`), or
  falls back to numpy_groupies; flox's own `mean` / `nanmean` agree with numpy_groupies when the fill is NaN.
-/
import FloxProofs.EndToEnd
import FloxProofs.EngineFloxCorrect

namespace Flox

/-- kernels for which `engine="flox"` and `engine="numpy"` return the same grouped array
    (all but flox's own `mean` / `nanmean`, which divide `fill` by a zero count in absent slots) -/
def floxAgrees (k : Kernel) : Prop := k ≠ .mean ∧ k ≠ .nanmean

theorem floxGrouped_agrees (k : Kernel) (hk : floxAgrees k)
    (codes : List Int) (vals : List Val) (size : Nat) (fill : Val) (hlen : codes.length = vals.length)
    (hfill : k = .nanlen ∨ k = .nansumsq → fill = Val.zero) :
    floxGrouped k codes vals size fill = npgGrouped k codes vals size fill := by
  by_cases hL : k ∈ [Kernel.sum, .prod, .max, .min, .nansum, .nanprod, .nanmax, .nanmin, .sumsq, .nansumsq, .nanlen]
  · exact floxGrouped_eq_npgGrouped k hL codes vals size fill hlen hfill
  · obtain ⟨h1, h2⟩ := hk
    unfold floxGrouped
    have : EngineFlox.run? k codes vals size fill = none := by
      cases k <;> first | rfl | (exfalso; simp at hL h1 h2)
    rw [this]

/-- flox's own `mean` / `nanmean` agree with numpy_groupies when the fill is NaN (`NaN / 0 = NaN`) -/
def floxAgreesAt (k : Kernel) (fill : Val) : Prop := floxAgrees k ∨ fill = Val.nan

theorem floxGrouped_mean_nan (codes : List Int) (vals : List Val) (size : Nat) :
    floxGrouped .mean codes vals size Val.nan = npgGrouped .mean codes vals size Val.nan := by
  unfold floxGrouped
  rw [EngineFlox.run_mean, npgGrouped_eq_blockVal .mean Val.nan codes vals size rfl (by simp)]
  simp only
  apply List.map_congr_left
  intro g _
  generalize members (Int.ofNat g) codes vals = ms
  by_cases h : ms = []
  · simp [h, blockVal, Val.div]
  · simp [h, blockVal, Kernel.skipsNaN]

theorem floxGrouped_nanmean_nan (codes : List Int) (vals : List Val) (size : Nat) :
    floxGrouped .nanmean codes vals size Val.nan = npgGrouped .nanmean codes vals size Val.nan := by
  unfold floxGrouped
  rw [EngineFlox.run_nanmean, npgGrouped_eq_blockVal .nanmean Val.nan codes vals size rfl (by simp)]
  simp only
  apply List.map_congr_left
  intro g _
  generalize members (Int.ofNat g) codes vals = ms
  by_cases h : ms = []
  · simp [h, blockVal, Val.div]
  · by_cases hd : dropNaN ms = []
    · simp [h, hd, blockVal, Kernel.skipsNaN, allNaNVal, kEval_nanmean_allNaN _ hd]
    · simp [h, hd, blockVal, Kernel.skipsNaN]

theorem floxGrouped_agreesAt (k : Kernel) (fill : Val) (hk : floxAgreesAt k fill)
    (codes : List Int) (vals : List Val) (size : Nat) (hlen : codes.length = vals.length)
    (hfill : k = .nanlen ∨ k = .nansumsq → fill = Val.zero) :
    floxGrouped k codes vals size fill = npgGrouped k codes vals size fill := by
  by_cases h : floxAgrees k
  · exact floxGrouped_agrees k h codes vals size fill hlen hfill
  · have hf : fill = Val.nan := hk.resolve_left h
    subst hf
    by_cases h1 : k = .mean
    · subst h1; exact floxGrouped_mean_nan codes vals size
    · have h2 : k = .nanmean := Decidable.byContradiction fun h2 => h ⟨h1, h2⟩
      subst h2; exact floxGrouped_nanmean_nan codes vals size

theorem engineCall_flox (k : Kernel) (fill : Val) (hk : floxAgreesAt k fill)
    (codes : List Int) (vals : List Val) (size : Nat) (hlen : codes.length = vals.length)
    (hfill : k = .nanlen ∨ k = .nansumsq → fill = Val.zero) :
    engineCall .flox k codes vals size fill = engineCall .npg k codes vals size fill := by
  unfold engineCall
  split
  · rfl
  · exact floxGrouped_agreesAt k fill hk codes vals size hlen hfill

theorem chunkReduce_flox (ks : List Kernel) (fills : List Val) (keys : List Key) (vals : List Val)
    (expected : Option Nat) (sort : Bool)
    (hks : ∀ p ∈ ks.zip fills, floxAgreesAt p.1 p.2)
    (hz : ∀ p ∈ ks.zip fills, (p.1 = .nanlen ∨ p.1 = .nansumsq) → p.2 = Val.zero)
    (hlen : keys.length = vals.length) :
    chunkReduce .flox ks fills keys vals expected sort = chunkReduce .npg ks fills keys vals expected sort := by
  have hl := factorizeKeys_codes_length keys expected sort
  unfold chunkReduce
  generalize factorizeKeys keys expected sort = fc at hl
  obtain ⟨found, codes⟩ := fc
  simp only at hl ⊢
  refine congrArg (Inter.mk _) ?_
  apply List.map_congr_left
  intro p hp
  obtain ⟨k, fv⟩ := p
  simp only
  split
  · rfl
  · rw [engineCall_flox k fv (hks (k, fv) hp) _ vals _ (by simp [hl, hlen]) (hz (k, fv) hp)]

abbrev Call.withNpg (c : Call) : Call := { c with eng := .npg }

theorem blockStage_flox (c : Call) (rb : Bool) (chunks : List Nat) (keys : List Key) (vals : List Val)
    (heng : c.eng = .flox) (harg : c.R.isArg = false)
    (hks : ∀ p ∈ c.R.chunk.zip c.R.interFills, floxAgreesAt p.1 p.2)
    (hz : ∀ p ∈ c.R.chunk.zip c.R.interFills, (p.1 = .nanlen ∨ p.1 = .nansumsq) → p.2 = Val.zero)
    (hlen : keys.length = vals.length) :
    blockStage c rb chunks keys vals = blockStage c.withNpg rb chunks keys vals := by
  rw [blockStage_eq c rb chunks keys vals harg, blockStage_eq c.withNpg rb chunks keys vals harg, heng]
  apply List.map_congr_left
  intro p hp
  exact chunkReduce_flox _ _ _ _ _ _ hks hz (splitBy_zip_aligned chunks keys vals hlen p hp)

theorem runKnown_eager_flox (c : Call) (floatData : Bool) (chunks : List Nat) (keys : List Key) (vals : List Val)
    (heng : c.eng = .flox)
    (hks : ∀ p ∈ c.R.numpy.zip c.R.numpyFills, floxAgreesAt p.1 p.2)
    (hz : ∀ p ∈ c.R.numpy.zip c.R.numpyFills, (p.1 = .nanlen ∨ p.1 = .nansumsq) → p.2 = Val.zero)
    (hlen : keys.length = vals.length) :
    runKnown c .eager floatData chunks keys vals = runKnown c.withNpg .eager floatData chunks keys vals := by
  rw [runKnown_eager, runKnown_eager, heng, chunkReduce_flox _ _ _ _ _ _ hks hz hlen]
  rfl

theorem runKnown_mapreduce_flox (c : Call) (rb : Bool) (floatData : Bool) (chunks : List Nat) (keys : List Key)
    (vals : List Val)
    (heng : c.eng = .flox) (harg : c.R.isArg = false)
    (hks : ∀ p ∈ c.R.chunk.zip c.R.interFills, floxAgreesAt p.1 p.2)
    (hz : ∀ p ∈ c.R.chunk.zip c.R.interFills, (p.1 = .nanlen ∨ p.1 = .nansumsq) → p.2 = Val.zero)
    (hlen : keys.length = vals.length)
    (hcombine : useGroupedCombine c floatData = false) :
    runKnown c (.mapreduce rb) floatData chunks keys vals
      = runKnown c.withNpg (.mapreduce rb) floatData chunks keys vals := by
  rw [runKnown_mapreduce c rb _ _ _ _ hcombine, runKnown_mapreduce c.withNpg rb _ _ _ _ hcombine,
    blockStage_flox c rb chunks keys vals heng harg hks hz hlen]
  rfl

theorem Shape.Fits.chunk_floxAgrees {s : Shape} {R : Resolved} (hs : s.Fits R) :
    ∀ p ∈ R.chunk.zip R.interFills, floxAgreesAt p.1 p.2 := by
  intro p hp
  have hk : p.1 ∈ R.chunk := (List.of_mem_zip hp).1
  obtain ⟨j, hj, hjk⟩ := List.getElem_of_mem hk
  have := floatColumns_kernel (hs.col_mem j hj)
  rw [hjk] at this
  exact Or.inl ⟨this.2.1, this.2.2.1⟩

def Shape.isMean : Shape → Bool
  | .mean _ => true
  | _ => false

/-- (H_floxmean) flox's own `mean` / `nanmean` kernels put `fill / 0` into absent slots: harmless when the fill is NaN
    (`NaN / 0 = NaN`, what numpy_groupies stores there; sufficient, not necessary: `inf / 0 = inf` too) -/
def HFloxMean (R : Resolved) (s : Shape) : Prop := s.isMean = true → R.npFill = Val.nan

instance (R : Resolved) (s : Shape) : Decidable (HFloxMean R s) := by unfold HFloxMean; infer_instance

theorem Shape.Fits.numpy_floxAgrees {s : Shape} {R : Resolved} (hs : s.Fits R) (hmean : HFloxMean R s) :
    ∀ p ∈ R.numpy.zip R.numpyFills, floxAgreesAt p.1 p.2 := by
  have hk0 : floxAgreesAt s.kernel R.npFill := by
    cases s with
    | simple k c f =>
      have := floatColumns_kernel hs.simple_mem
      exact Or.inl ⟨this.2.1, this.2.2.1⟩
    | mean b => exact Or.inr (hmean rfl)
    | var b d => cases b <;> exact Or.inl (by simp [floxAgrees, Shape.kernel])
  rw [hs.numpy, hs.numpyFills, zip_cons_cntSuffix]
  intro p hp
  rcases mem_cons_cntSuffix hp with rfl | rfl
  · exact hk0
  · exact Or.inl (by simp [floxAgrees])

/-- eager = specification with flox's own engine, for every shape; for the `mean` / `nanmean` shapes the NumPy fill
    must be NaN (H_floxmean; it is, in every float row of the registry). -/
theorem eager_eq_spec_flox (R : Resolved) (s : Shape) (c : Call) (n : Nat) (floatData : Bool)
    (chunks : List Nat) (codes : List Int) (vals : List Val)
    (hR : c.R = R) (heng : c.eng = .flox) (hn : c.ngroups = n) (hknown : c.knownLabels = true)
    (hshape : R.shape? = some s) (hmean : HFloxMean R s)
    (hcodes : CodesOK codes n) (hlen : codes.length = vals.length)
    (H_absent : ∀ g : Nat, g < n → HAbsent R (members (Int.ofNat g) codes vals))
    (H_allnan : HAllNaN R s) :
    runKnown c .eager floatData chunks (codeKeys codes) vals = specResult s.kernel R codes vals n := by
  have hs := (R.shape?_eq_some_iff s).mp hshape
  subst hR
  rw [runKnown_eager_flox c floatData chunks _ vals heng (hs.numpy_floxAgrees hmean) hs.numpy_zero
    (by rw [codeKeys_length, hlen])]
  exact eager_eq_spec c.R s c.withNpg n floatData chunks codes vals rfl rfl hn hknown hshape hcodes hlen
    H_absent H_allnan

/-- map-reduce (dense blocks, simple combine) = specification with flox's own engine, for EVERY shape
    (the chunk kernels of all shapes are implemented by `aggregate_flox` or fall back to numpy_groupies) -/
theorem mapreduce_dense_eq_spec_flox (R : Resolved) (s : Shape) (c : Call) (n : Nat) (floatData : Bool)
    (chunks : List Nat) (codes : List Int) (vals : List Val)
    (hR : c.R = R) (heng : c.eng = .flox) (hn : c.ngroups = n)
    (hshape : R.shape? = some s) (hcodes : CodesOK codes n) (hlen : codes.length = vals.length)
    (H_absent : ∀ g : Nat, g < n → HAbsent R (members (Int.ofNat g) codes vals))
    (H_minmax : HMinMax R s)
    (hchunks : chunks ≠ []) (hsum : chunks.sum = codes.length)
    (hcombine : useGroupedCombine c floatData = false) :
    runKnown c (.mapreduce true) floatData chunks (codeKeys codes) vals = specResult s.kernel R codes vals n := by
  have hs := (R.shape?_eq_some_iff s).mp hshape
  subst hR
  rw [runKnown_mapreduce_flox c true floatData chunks _ vals heng hs.isArg hs.chunk_floxAgrees hs.chunk_zero
    (by rw [codeKeys_length, hlen]) hcombine]
  exact mapreduce_dense_eq_spec c.R s c.withNpg n floatData chunks codes vals rfl rfl hn hshape hcodes hlen
    H_absent H_minmax hchunks hsum hcombine

theorem mapreduce_dense_eq_eager_flox (R : Resolved) (s : Shape) (c : Call) (n : Nat) (floatData : Bool)
    (chunks chunks' : List Nat) (codes : List Int) (vals : List Val)
    (hR : c.R = R) (heng : c.eng = .flox) (hn : c.ngroups = n) (hknown : c.knownLabels = true)
    (hshape : R.shape? = some s) (hmean : HFloxMean R s)
    (hcodes : CodesOK codes n) (hlen : codes.length = vals.length)
    (H_absent : ∀ g : Nat, g < n → HAbsent R (members (Int.ofNat g) codes vals))
    (H_allnan : HAllNaN R s) (H_minmax : HMinMax R s)
    (hchunks : chunks ≠ []) (hsum : chunks.sum = codes.length)
    (hcombine : useGroupedCombine c floatData = false) :
    runKnown c (.mapreduce true) floatData chunks (codeKeys codes) vals
      = runKnown c .eager floatData chunks' (codeKeys codes) vals := by
  rw [mapreduce_dense_eq_spec_flox R s c n floatData chunks codes vals hR heng hn hshape hcodes hlen H_absent
      H_minmax hchunks hsum hcombine,
    eager_eq_spec_flox R s c n floatData chunks' codes vals hR heng hn hknown hshape hmean hcodes hlen H_absent
      H_allnan]

theorem eager_engine_irrelevant (R : Resolved) (s : Shape) (c : Call) (floatData : Bool)
    (chunks : List Nat) (keys : List Key) (vals : List Val)
    (hR : c.R = R) (heng : c.eng = .flox) (hshape : R.shape? = some s) (hmean : HFloxMean R s)
    (hlen : keys.length = vals.length) :
    runKnown c .eager floatData chunks keys vals = runKnown c.withNpg .eager floatData chunks keys vals := by
  have hs := (R.shape?_eq_some_iff s).mp hshape
  subst hR
  exact runKnown_eager_flox c floatData chunks keys vals heng (hs.numpy_floxAgrees hmean) hs.numpy_zero hlen

end Flox
