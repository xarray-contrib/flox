/-
  Non-vacuity examples and necessity counterexamples for `FloxProofs/Grouped.lean`.
-/
import FloxProofs.Grouped
import FloxProofs.EndToEndExamples

namespace Flox.Grp
namespace GEx
open E2E

/-- `nanlast`, no `min_count`, `fill_value=-7` -/
def Rnanlast : Resolved :=
  { name := "nanlast", numpy := [.nanlast], chunk := [.nanlast], combine := [.nanlast], interFills := [Val.nan],
    numpyFills := [Val.nan], finalFill := some Val.nan, userFill := some (Val.fin (-7)), minCount := 0,
    finalize := "none", ddof := 0, isArg := false }

/-- `nanlast`, `min_count=1`, no fill value -/
def Rnanlast1 : Resolved :=
  { name := "nanlast", numpy := [.nanlast, .nanlen], chunk := [.nanlast, .nanlen], combine := [.nanlast, .sum],
    interFills := [Val.nan, Val.zero], numpyFills := [Val.nan, Val.zero], finalFill := some Val.nan,
    userFill := none, minCount := 1, finalize := "none", ddof := 0, isArg := false }

theorem Rnanlast_shape : Rnanlast.shape? = some (.simple .nanlast .nanlast Val.nan) := by decide +kernel

example : Rnanlast.shape? = some (.simple .nanlast .nanlast Val.nan) := Rnanlast_shape
example : Rnanlast1.shape? = some (.simple .nanlast .nanlast Val.nan) := by decide +kernel

/-- the grouped combine is selected for `nanlast` on non-float data -/
example : useGroupedCombine (mkCall Rnanlast .npg 4 2) false = true := by decide +kernel

/-- `mapreduce_grouped_eq_spec` applies: 4 blocks, binary tree, one dropped element, an absent label (filled with -7)
    and an all-NaN label -/
theorem nanlast_grouped :
    runKnown (mkCall Rnanlast .npg 4 2) (.mapreduce false) false [2, 1, 3, 2] (codeKeys codes8) vals8
      = specResult .nanlast Rnanlast codes8 vals8 4 :=
  mapreduce_grouped_eq_spec Rnanlast (.simple .nanlast .nanlast Val.nan) (mkCall Rnanlast .npg 4 2) 4 false
    [2, 1, 3, 2] codes8 vals8 rfl rfl rfl Rnanlast_shape codes8_ok rfl (by decide) (by decide +kernel)
    (by decide +kernel) (by decide) rfl (by decide +kernel)

example : runKnown (mkCall Rnanlast .npg 4 2) (.mapreduce false) false [2, 1, 3, 2] (codeKeys codes8) vals8
    = specResult .nanlast Rnanlast codes8 vals8 4 := nanlast_grouped

theorem nanlast_spec : specResult .nanlast Rnanlast codes8 vals8 4
    = .ok [Val.fin 2, Val.fin (-7), Val.fin 5, Val.nan] := by decide +kernel

example : runKnown (mkCall Rnanlast .npg 4 2) (.mapreduce false) false [2, 1, 3, 2] (codeKeys codes8) vals8
    = .ok [Val.fin 2, Val.fin (-7), Val.fin 5, Val.nan] := nanlast_grouped.trans nanlast_spec
example : specResult .nanlast Rnanlast codes8 vals8 4 = .ok [Val.fin 2, Val.fin (-7), Val.fin 5, Val.nan] :=
  nanlast_spec

/-- `min_count=1` without fill value, all requested labels valid, dropped element valid: `H_dropped` holds -/
example : runKnown (mkCall Rnanlast1 .npg 2 3) (.mapreduce false) false [1, 2, 2] (codeKeys [0, -1, 1, 0, 1])
      [.fin 1, .fin 9, .nan, .fin 4, .fin 5]
    = specResult .nanlast Rnanlast1 [0, -1, 1, 0, 1] [.fin 1, .fin 9, .nan, .fin 4, .fin 5] 2 :=
  mapreduce_grouped_eq_spec Rnanlast1 (.simple .nanlast .nanlast Val.nan) (mkCall Rnanlast1 .npg 2 3) 2 false
    [1, 2, 2] _ _ rfl rfl rfl (by decide +kernel) (by decide +kernel) rfl (by decide) (by decide +kernel)
    (by decide +kernel) (by decide) rfl (by decide +kernel)

example : specResult .nanlast Rnanlast1 [0, -1, 1, 0, 1] [.fin 1, .fin 9, .nan, .fin 4, .fin 5] 2
    = .ok [Val.fin 4, Val.fin 5] := by decide +kernel

/-- labels discovered at compute time (`nanmean`, `min_count=1`, fill -1; labels 5, NaN, 2, 5, 2, 2, 5, 3) -/
def keys8 : List Key := [some 5, none, some 2, some 5, some 2, some 2, some 5, some 3]

/-- a fill is given, so `H_allmissing` holds whatever the labels -/
theorem Rnanmean_allMissing {keys : List Key} : HAllMissing Rnanmean keys := fun _ _ h => nomatch h

theorem nanmean_unknown : runUnknown { mkCall Rnanmean .npg 0 2 with knownLabels := false } [2, 1, 3, 2] keys8 vals8
    = specUnknown .nanmean Rnanmean true keys8 vals8 :=
  runUnknown_eq_spec Rnanmean (.mean true) _ [2, 1, 3, 2] keys8 vals8 rfl rfl Rnanmean_shape rfl
    Rnanmean_minmax Rnanmean_allMissing (by decide) rfl

example : runUnknown { mkCall Rnanmean .npg 0 2 with knownLabels := false } [2, 1, 3, 2] keys8 vals8
    = specUnknown .nanmean Rnanmean true keys8 vals8 := nanmean_unknown

theorem nanmean_unknown_spec : specUnknown .nanmean Rnanmean true keys8 vals8
    = .ok ([some 2, some 3, some 5], [Val.fin 4, Val.fin (-1), Val.fin (3/2)]) := by decide +kernel

example : specUnknown .nanmean Rnanmean true keys8 vals8
    = .ok ([some 2, some 3, some 5], [Val.fin 4, Val.fin (-1), Val.fin (3/2)]) := nanmean_unknown_spec

/-- `H_dropped` is necessary (a finding about `_finalize_results` with `reindex=False`): the count mask is applied to
    the group `-1` of dropped elements as well; with `min_count=1`, no fill value and a dropped NaN element the
    map-reduce path raises `ValueError("Filling is required…")` although every requested label has a valid value. -/
theorem H_dropped_counterexample :
    Rnanlast1.shape? = some (.simple .nanlast .nanlast Val.nan)
    ∧ HMinMax Rnanlast1 (.simple .nanlast .nanlast Val.nan)
    ∧ ¬ HDropped Rnanlast1 [0, -1] [.fin 1, .nan]
    ∧ runKnown (mkCall Rnanlast1 .npg 1 2) (.mapreduce false) false [2] (codeKeys [0, -1]) [.fin 1, .nan]
        = .error "ValueError"
    ∧ specResult .nanlast Rnanlast1 [0, -1] [.fin 1, .nan] 1 = .ok [Val.fin 1]
    ∧ runKnown (mkCall Rnanlast1 .npg 1 2) .eager false [2] (codeKeys [0, -1]) [.fin 1, .nan] = .ok [Val.fin 1] := by
  decide +kernel

/-- `codes ≠ []` is necessary (degenerate): empty array, no requested label, `min_count=1`, no fill: the single
    `[NaN]` group of the empty block is masked and raises. -/
theorem codes_ne_nil_counterexample :
    runKnown (mkCall Rnanlast1 .npg 0 2) (.mapreduce false) false [0] (codeKeys []) [] = .error "ValueError"
    ∧ specResult .nanlast Rnanlast1 [] [] 0 = .ok [] := by decide +kernel

/-- `H_minmax` is necessary also for the grouped combine (`nanmax` without the count mask, labels treated as
    unknown so that the grouped combine is used): an all-NaN label keeps the intermediate fill `-inf`. -/
theorem H_minmax_grouped_counterexample :
    useGroupedCombine { mkCall Rnanmax0 .npg 1 2 with knownLabels := false } true = true
    ∧ ¬ HMinMax Rnanmax0 (.simple .nanmax .nanmax Val.ninf)
    ∧ runKnown { mkCall Rnanmax0 .npg 1 2 with knownLabels := false } (.mapreduce false) true [1] (codeKeys [0])
        [Val.nan] = .ok [Val.ninf]
    ∧ specResult .nanmax Rnanmax0 [0] [Val.nan] 1 = .ok [Val.nan] := by decide +kernel

theorem chunks_ne_nil_grouped_counterexample :
    runKnown (mkCall Rnanlast .npg 1 2) (.mapreduce false) false [] (codeKeys [0]) [.fin 1]
      ≠ specResult .nanlast Rnanlast [0] [.fin 1] 1 := by decide +kernel

theorem chunks_sum_grouped_counterexample :
    runKnown (mkCall Rnanlast .npg 4 2) (.mapreduce false) false [2, 1] (codeKeys codes8) vals8
      ≠ specResult .nanlast Rnanlast codes8 vals8 4 := by decide +kernel

def intMin : Val := Val.fin (-9223372036854775808)

/-- `nanlast` as resolved for int64 data -/
def RnanlastInt : Resolved :=
  { name := "nanlast", numpy := [.nanlast], chunk := [.nanlast], combine := [.nanlast], interFills := [intMin],
    numpyFills := [intMin], finalFill := some intMin, userFill := some (Val.fin (-7)), minCount := 0,
    finalize := "none", ddof := 0, isArg := false }

example : RnanlastInt.shape? = none := by decide +kernel

def valsInt8 : List Val := [.fin 1, .fin 9, .fin 3, .fin 6, .fin 5, .fin 8, .fin 2, .fin 4]

/-- `mapreduce_sparse_intdata_partial` applies (4 blocks, binary tree) -/
example :
    groupedCombine RnanlastInt .npg true (treeReduce (groupedCombine RnanlastInt .npg true) 2
        (blockStage (mkCall RnanlastInt .npg 4 2) false [2, 1, 3, 2] (codeKeys codes8) valsInt8))
      = { groups := (foundOf true (codeKeys codes8)).map some,
          cols := [(foundOf true (codeKeys codes8)).map fun r =>
            kEval .nanlast (membersK (some r) (codeKeys codes8) valsInt8)] } :=
  mapreduce_sparse_intdata_partial (mkCall RnanlastInt .npg 4 2) .nanlast (Or.inr rfl) intMin [2, 1, 3, 2]
    (codeKeys codes8) valsInt8 2 rfl rfl rfl rfl rfl (by decide) rfl rfl (by decide +kernel) (by decide +kernel)

/-- concrete end-to-end evidence for the integer blueprint (the finalization step is not proved in general) -/
example : runKnown (mkCall RnanlastInt .npg 4 2) (.mapreduce false) false [2, 1, 3, 2] (codeKeys codes8) valsInt8
      = specResult .nanlast RnanlastInt codes8 valsInt8 4
    ∧ specResult .nanlast RnanlastInt codes8 valsInt8 4 = .ok [Val.fin 2, Val.fin (-7), Val.fin 8, Val.fin 4] := by
  decide +kernel

end GEx
end Flox.Grp
