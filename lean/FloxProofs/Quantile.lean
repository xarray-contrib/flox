/-
  The grouped quantile of `aggregate_flox.quantile_` against NumPy's (C18).  The complex order `cle` is
  lexicographic (NaN flag, label, value), so the sorted array consists of zones: the valid entries of group `g`
  form one zone, which starts at the number of valid entries of smaller groups (the model's cumulative offset)
  and, the sort being stable under `filter`, holds the group's valid members in ascending order.  The index
  arithmetic of `cell` then reads NumPy's linear interpolation off that zone.
-/
import FloxModel.Quantile
import FloxProofs.StableSort

namespace Flox
namespace Quantile

/-- NumPy's order on floats: NaN last -/
def vle (a b : Val) : Prop := b.isNaN = true ∨ (a.isNaN = false ∧ Val.lt b a = false)

/-- `-inf < finite < +inf < NaN` -/
def vrank : Val → Int × Rat
  | .ninf => (0, 0)
  | .fin r => (1, r)
  | .pinf => (2, 0)
  | .nan => (3, 0)

theorem vle_iff (a b : Val) :
    vle a b ↔ LexLe (fun x y : Int => x ≤ y) (fun x y : Rat => x ≤ y) (vrank a) (vrank b) := by
  cases a <;> cases b <;> simp [vle, vrank, LexLe, Val.lt, Val.isNaN, Rat.not_lt]

theorem vle_preorder : TotalPreorder vle := (TotalPreorder.int.lex TotalPreorder.rat).comap vrank vle_iff

def ckey (a : Int × Val) : Bool × Int × Val := (a.2.isNaN, a.1, a.2)

theorem cle_iff (a b : Int × Val) :
    cle a b = true ↔
      LexLe (fun x y : Bool => x = true → y = true) (LexLe (fun x y : Int => x ≤ y) vle) (ckey a) (ckey b) := by
  obtain ⟨ka, va⟩ := a
  obtain ⟨kb, vb⟩ := b
  -- `cle a b = !clt b a`, and `clt` has one Boolean answer for each of `kb < ka`, `ka < kb`, `ka = kb`; for every
  -- pair of constructors of the two values these are matched against the lexicographic order on
  -- (NaN flag, label, value); what is left is linear arithmetic on the labels and, for two finite values, `Rat`
  cases va <;> cases vb <;> simp [cle, clt, LexLe, ckey, vle, Val.lt, Val.isNaN] <;> grind

abbrev cleP (a b : Int × Val) : Prop := cle a b = true

theorem cle_preorder : TotalPreorder cleP :=
  (TotalPreorder.bool.lex (TotalPreorder.int.lex vle_preorder)).comap ckey cle_iff

theorem cinsert_eq (x : Int × Val) : ∀ l, cinsert x l = insertBy cleP x l
  | [] => rfl
  | y :: ys => by rw [cinsert, insertBy_cons, cinsert_eq x ys]

theorem csort_eq_isort : ∀ l, csort l = isort cleP l
  | [] => rfl
  | x :: xs => by rw [csort, isort, cinsert_eq, csort_eq_isort xs]

theorem insertAsc_eq (x : Rat) : ∀ l, insertAsc x l = insertBy (· ≤ ·) x l
  | [] => rfl
  | y :: ys => by rw [insertAsc, insertBy_cons, insertAsc_eq x ys]

theorem sortAsc_eq_isort : ∀ l, sortAsc l = isort (· ≤ ·) l
  | [] => rfl
  | x :: xs => by rw [sortAsc, isort, insertAsc_eq, sortAsc_eq_isort xs]

theorem sortAsc_length (l : List Rat) : (sortAsc l).length = l.length := by
  rw [sortAsc_eq_isort]
  exact (isort_perm _ l).length_eq

def validLt (b : Int) (x : Int × Val) : Bool := !x.2.isNaN && decide (x.1 < b)

def validEq (g : Int) (x : Int × Val) : Bool := !x.2.isNaN && decide (x.1 = g)

theorem validLt_down (b : Int) (x y : Int × Val) (h : cle x y = true) (hy : validLt b y = true) :
    validLt b x = true := by
  obtain ⟨h1, h2⟩ := (cle_iff x y).mp h
  simp only [ckey] at h1 h2
  simp only [validLt, Bool.and_eq_true, Bool.not_eq_eq_eq_not, Bool.not_true, decide_eq_true_eq] at hy ⊢
  have hx : x.2.isNaN = false := Bool.eq_false_iff.mpr fun hx => by simp [h1 hx] at hy
  have hk : x.1 ≤ y.1 := (h2 fun hn => by simp [hy.1] at hn).1
  exact ⟨hx, by omega⟩

theorem validEq_eq (g : Int) (x : Int × Val) : validEq g x = (!validLt g x && validLt (g + 1) x) := by
  simp only [validEq, validLt]
  grind

theorem csort_three (g : Int) (l : List (Int × Val)) :
    csort l = (csort l).filter (validLt g)
      ++ ((csort l).filter (validEq g) ++ (csort l).filter (fun x => !validLt (g + 1) x)) := by
  rw [funext (validEq_eq g)]
  apply sorted_split3 (validLt g) (validLt (g + 1)) (validLt_down g) (validLt_down (g + 1))
  · intro x
    simp only [validLt, Bool.and_eq_true, decide_eq_true_eq]
    exact fun ⟨hn, hk⟩ => ⟨hn, by omega⟩
  · rw [csort_eq_isort]
    exact isort_sorted cle_preorder l

/-- the property's quantifier: values are finite or NaN -/
def NoInf (vs : List Val) : Prop := ∀ v ∈ vs, v ≠ Val.pinf ∧ v ≠ Val.ninf

theorem dropNaN_eq_finites : ∀ ms, NoInf ms → dropNaN ms = (finites ms).map Val.fin
  | [], _ => rfl
  | v :: vs, h => by
    have ih := dropNaN_eq_finites vs fun w hw => h w (List.mem_cons_of_mem _ hw)
    have hv := h v (List.mem_cons_self ..)
    cases v <;> simp_all [dropNaN, finites, Val.isNaN]

theorem NoInf_members (g : Int) (codes : List Int) (vals : List Val) (h : NoInf vals) :
    NoInf (members g codes vals) := by
  intro v hv
  rw [members_eq_filter] at hv
  obtain ⟨p, hp, rfl⟩ := List.mem_map.mp hv
  exact h _ (List.of_mem_zip (List.mem_filter.mp hp).1).2

theorem filter_key_eq_map (l : List (Int × Val)) (g : Int) :
    l.filter (fun p => p.1 = g) = ((l.filter (fun p => p.1 = g)).map (·.2)).map (fun v => (g, v)) := by
  rw [List.map_map]
  conv => lhs; rw [← List.map_id (l.filter (fun p => p.1 = g))]
  apply List.map_congr_left
  intro p hp
  have := (List.mem_filter.mp hp).2
  simp only [decide_eq_true_eq] at this
  simp [← this]

theorem prepare_zone (g : Int) (codes : List Int) (vals : List Val) (h : NoInf vals) :
    (EngineFlox.prepare codes vals).filter (validEq g)
      = (finites (members g codes vals)).map (fun r => (g, Val.fin r)) := by
  unfold validEq
  rw [← List.filter_filter, filter_key_eq_map, EngineFlox.prepare_members, List.filter_map]
  have : (members g codes vals).filter ((fun p : Int × Val => !p.2.isNaN) ∘ fun v => (g, v))
      = dropNaN (members g codes vals) := rfl
  rw [this, dropNaN_eq_finites _ (NoInf_members g codes vals h), List.map_map]
  rfl

/-- stability of the complex sort puts the sorted valid members of `g` into its zone -/
theorem csort_zone (g : Int) (codes : List Int) (vals : List Val) (h : NoInf vals) :
    (csort (EngineFlox.prepare codes vals)).filter (validEq g)
      = (sortAsc (finites (members g codes vals))).map (fun r => (g, Val.fin r)) := by
  rw [csort_eq_isort, filter_isort cle_preorder, prepare_zone g codes vals h, sortAsc_eq_isort]
  apply map_isort
  intro a b
  simp [cleP, cle, clt, Val.lt, Val.isNaN, Rat.not_lt]

theorem csort_layout (g : Int) (codes : List Int) (vals : List Val) (h : NoInf vals) :
    ∃ A C, (csort (EngineFlox.prepare codes vals)).map (·.2)
        = A ++ ((sortAsc (finites (members g codes vals))).map Val.fin ++ C)
      ∧ A.length = ((EngineFlox.prepare codes vals).filter (validLt g)).length := by
  have h3 := congrArg (List.map (·.2)) (csort_three g (EngineFlox.prepare codes vals))
  rw [csort_zone g codes vals h, List.map_append, List.map_append, List.map_map] at h3
  refine ⟨_, _, h3, ?_⟩
  rw [List.length_map, csort_eq_isort]
  exact ((isort_perm _ _).filter _).length_eq

theorem lerp_fin (a b t : Rat) : lerp (Val.fin a) (Val.fin b) t = Val.fin (a + (b - a) * t) := by
  unfold lerp
  simp only [Val.sub, Val.neg, Val.add, Val.mul]
  split
  · congr 1; grind
  · congr 1; grind

theorem takeWrap_nonneg (S : List Val) (i : Int) (h : 0 ≤ i) : takeWrap S i = S.getD i.toNat Val.nan := by
  unfold takeWrap
  rw [if_neg (by omega)]

theorem getD_zone (A C : List Val) (srt : List Rat) (k : Nat) (hk : k < srt.length) :
    (A ++ (srt.map Val.fin ++ C)).getD (A.length + k) Val.nan = Val.fin (srt.getD k 0) := by
  rw [List.getD_eq_getElem?_getD, List.getD_eq_getElem?_getD,
    List.getElem?_append_right (by omega), Nat.add_sub_cancel_left,
    List.getElem?_append_left (by simpa using hk)]
  simp [hk]

theorem virtual_bounds (q : Rat) (hq0 : 0 ≤ q) (hq1 : q ≤ 1) (n : Nat) (hn : 0 < n) :
    let v : Rat := q * (((n : Int) - 1 : Int) : Rat)
    0 ≤ v.floor ∧ v.floor ≤ v.ceil ∧ v.ceil ≤ (n : Int) - 1 := by
  intro v
  have hm : (0 : Rat) ≤ (((n : Int) - 1 : Int) : Rat) := Rat.intCast_nonneg.mpr (by omega)
  have hv0 : 0 ≤ v := Rat.mul_nonneg hq0 hm
  have hv1 : v ≤ (((n : Int) - 1 : Int) : Rat) := by
    have := Rat.mul_le_mul_of_nonneg_right hq1 hm
    simpa [v] using this
  refine ⟨Rat.le_floor_iff.mpr (by simpa using hv0), ?_, Rat.ceil_le_iff.mpr hv1⟩
  have := Rat.floor_monotone (Rat.le_ceil (x := v))
  rwa [Rat.floor_intCast] at this

theorem cell_eq_linear (A C : List Val) (srt : List Rat) (q : Rat) (hq0 : 0 ≤ q) (hq1 : q ≤ 1)
    (hn : srt ≠ []) :
    cell (A ++ (srt.map Val.fin ++ C)) q A.length srt.length = Val.fin (linear q srt) := by
  have hlen : 0 < srt.length := List.length_pos_iff.mpr hn
  obtain ⟨hf0, hfc, hc1⟩ := virtual_bounds q hq0 hq1 srt.length hlen
  unfold cell linear
  simp only
  generalize hv : q * (((srt.length : Int) - 1 : Int) : Rat) = v at hf0 hfc hc1 ⊢
  rw [Rat.floor_add_intCast, Rat.ceil_add_intCast]
  rw [takeWrap_nonneg _ _ (by omega), takeWrap_nonneg _ _ (by omega)]
  have e1 : (v.floor + ((A.length : Nat) : Int)).toNat = A.length + v.floor.toNat := by omega
  have e2 : (v.ceil + ((A.length : Nat) : Int)).toNat = A.length + v.ceil.toNat := by omega
  rw [e1, e2, getD_zone A C srt _ (by omega), getD_zone A C srt _ (by omega), lerp_fin]
  congr 2
  rw [Rat.intCast_add]
  grind

/-- what `segResults` computes for one run, as a function of the offset -/
def cellR (skipna : Bool) (q : Rat) (S : List Val) (off : Nat) (ms : List Val) : Val :=
  if !skipna && (dropNaN ms).length ≠ ms.length then Val.nan
  else if skipna && (dropNaN ms).length = 0 then Val.nan
  else cell S q off (dropNaN ms).length

theorem segResults_lookup (skipna : Bool) (q : Rat) (S : List Val) (g : Int) :
    ∀ (segs : List (Int × List Val)) (off : Nat), segs.Pairwise (fun a b => a.1 < b.1) →
    (segResults skipna q S off segs).lookup g
      = (segs.lookup g).map
          (cellR skipna q S (off + ((EngineFlox.joinSegs segs).filter (validLt g)).length))
  | [], _, _ => rfl
  | (k, ms) :: rest, off, hlt => by
    have ⟨hk, hrest⟩ := List.pairwise_cons.mp hlt
    simp only [segResults, EngineFlox.lookup_cons_ite]
    by_cases hgk : g = k
    · subst hgk
      have hnone : (EngineFlox.joinSegs ((g, ms) :: rest)).filter (validLt g) = [] :=
        EngineFlox.filter_joinSegs_eq_nil fun seg hs v => by
          have hle : ¬ seg.1 < g := by
            rcases List.mem_cons.mp hs with rfl | hs
            · exact Int.lt_irrefl _
            · exact Int.not_lt.mpr (Int.le_of_lt (hk seg hs))
          simp [validLt, hle]
      rw [if_pos rfl, if_pos rfl, hnone]
      rfl
    · rw [if_neg hgk, if_neg hgk, segResults_lookup skipna q S g rest _ hrest]
      by_cases hp : ∃ seg ∈ rest, seg.1 = g
      · -- `g` occurs later, hence `k < g` and the valid members of this run lie in front of it
        have hkg : k < g := by
          obtain ⟨seg, hs, he⟩ := hp
          exact he ▸ hk seg hs
        have hms : ms.filter (validLt g ∘ fun v => (k, v)) = dropNaN ms :=
          List.filter_congr fun v _ => by simp [validLt, hkg]
        rw [EngineFlox.joinSegs_cons, List.filter_append, List.length_append, List.filter_map, List.length_map,
          hms, Nat.add_assoc]
      · have hnone : rest.lookup g = none :=
          List.lookup_eq_none_iff.mpr fun seg hs => by simpa using fun h => hp ⟨seg, hs, h.symm⟩
        rw [hnone]
        rfl

theorem engineFlox_eq (skipna : Bool) (q : Rat) (codes : List Int) (vals : List Val) (size : Nat) (fill : Val) :
    engineFlox skipna q codes vals size fill = (List.range size).map fun (g : Nat) =>
      if members (Int.ofNat g) codes vals = [] then fill
      else cellR skipna q ((csort (EngineFlox.prepare codes vals)).map (·.2))
        ((EngineFlox.prepare codes vals).filter (validLt (Int.ofNat g))).length
        (members (Int.ofNat g) codes vals) := by
  have hs := EngineFlox.prepare_sorted codes vals
  unfold engineFlox
  apply List.map_congr_left
  intro g _
  generalize Int.ofNat g = gi
  rw [segResults_lookup _ _ _ _ _ _ (EngineFlox.segments_keys_lt _ hs), EngineFlox.joinSegs_segments,
    EngineFlox.segments_lookup _ hs, EngineFlox.prepare_members, Nat.zero_add]
  have hiff : (EngineFlox.prepare codes vals).filter (fun p => p.1 = gi) = [] ↔ members gi codes vals = [] := by
    rw [← EngineFlox.prepare_members, List.map_eq_nil_iff]
  by_cases hm : members gi codes vals = []
  · rw [if_pos (hiff.mpr hm), if_pos hm]
    rfl
  · rw [if_neg (mt hiff.mp hm), if_neg hm, Option.map_some]

theorem hasNaN_eq (ms : List Val) : hasNaN ms = decide ((dropNaN ms).length ≠ ms.length) := by
  rw [Bool.eq_iff_iff, decide_eq_true_eq, ne_eq, dropNaN, List.length_filter_eq_length_iff]
  simp [hasNaN]

/-- model = specification on a present group (either variant), given that its sorted valid members sit at the offset
    the model reads from -/
theorem cellR_eq_spec (skipna : Bool) (q : Rat) (hq0 : 0 ≤ q) (hq1 : q ≤ 1) (ms : List Val) (h : NoInf ms)
    (hne : ms ≠ []) (A C : List Val) :
    cellR skipna q (A ++ ((sortAsc (finites ms)).map Val.fin ++ C)) A.length ms = Spec.quantile skipna q ms := by
  have hlen : (dropNaN ms).length = (finites ms).length := by rw [dropNaN_eq_finites _ h, List.length_map]
  unfold cellR Spec.quantile
  rw [hasNaN_eq]
  split
  · rfl
  · next hnan =>
    by_cases hfin : finites ms = []
    · -- the NaN-propagating variant gets here only without NaN members: then some member is valid
      have h0 : (dropNaN ms).length = 0 := by rw [hlen, hfin]; rfl
      have hs : skipna = true := by
        cases skipna
        · simp only [Bool.not_false, Bool.true_and, h0, decide_eq_true_eq, ne_eq, Decidable.not_not] at hnan
          exact absurd (List.length_eq_zero_iff.mp hnan.symm) hne
        · rfl
      simp [hfin, h0, hs]
    · have h0 : (dropNaN ms).length ≠ 0 := by
        rw [hlen]; exact fun hz => hfin (List.length_eq_zero_iff.mp hz)
      simp only [h0, decide_false, Bool.and_false, Bool.false_eq_true, if_false, if_neg hfin]
      rw [hlen, ← sortAsc_length]
      exact cell_eq_linear A C _ q hq0 hq1 fun hs =>
        hfin (List.length_eq_zero_iff.mp (by rw [← sortAsc_length, hs]; rfl))

theorem engineFlox_eq_grouped (skipna : Bool) (q : Rat) (hq0 : 0 ≤ q) (hq1 : q ≤ 1) (codes : List Int)
    (vals : List Val) (hfin : NoInf vals) (size : Nat) (fill : Val) :
    engineFlox skipna q codes vals size fill = Spec.grouped skipna q codes vals size fill := by
  rw [engineFlox_eq]
  apply List.map_congr_left
  intro g _
  simp only [List.isEmpty_iff]
  split
  · rfl
  · next hm =>
    obtain ⟨A, C, hS, hA⟩ := csort_layout (Int.ofNat g) codes vals hfin
    rw [hS, ← hA]
    exact cellR_eq_spec skipna q hq0 hq1 _ (NoInf_members _ codes vals hfin) hm A C

end Quantile
end Flox
