/-
  Correctness of flox's own engine (`EngineFlox`, model of `flox/aggregate_flox.py`):
  in every slot it computes the per-group reduction of that group's members *in original order*.
-/
import FloxProofs.StableSort
import FloxProofs.NpgContract

namespace Flox
namespace EngineFlox

def substV (e : Val) (v : Val) : Val := if v.isNaN then e else v
def notNullV (v : Val) : Val := if v.isNaN then Val.zero else Val.one
def sqV (v : Val) : Val := Val.mul v v

theorem substNaN_eq (e : Val) (s : List (Int × Val)) :
    substNaN e s = s.map fun p => (p.1, substV e p.2) := rfl
theorem notNullVals_eq (s : List (Int × Val)) :
    notNullVals s = s.map fun p => (p.1, notNullV p.2) := rfl
theorem sqVals_eq (s : List (Int × Val)) :
    sqVals s = s.map fun p => (p.1, sqV p.2) := rfl
theorem sqVals_substNaN_eq (e : Val) (s : List (Int × Val)) :
    sqVals (substNaN e s) = s.map fun p => (p.1, sqV (substV e p.2)) := by
  simp [sqVals, substNaN, sqV, substV]

theorem mapVals_sorted (f : Val → Val) (s : List (Int × Val)) (hs : KeySorted s) :
    KeySorted (s.map fun p => (p.1, f p.2)) := by
  unfold KeySorted
  rw [List.pairwise_map]
  exact hs

theorem mapVals_filter (f : Val → Val) (s : List (Int × Val)) (g : Int) :
    (s.map fun p => (p.1, f p.2)).filter (fun p => p.1 = g)
      = (s.filter (fun p => p.1 = g)).map fun p => (p.1, f p.2) := by
  rw [List.filter_map]
  rfl

theorem npGroupedOp_prepare_map (op : Val → Val → Val) (f : Val → Val)
    (codes : List Int) (vals : List Val) (size : Nat) (fill : Val) :
    npGroupedOp op ((prepare codes vals).map fun p => (p.1, f p.2)) size fill
      = (List.range size).map fun (g : Nat) =>
          if members (Int.ofNat g) codes vals = [] then fill
          else fold1 op Val.nan ((members (Int.ofNat g) codes vals).map f) := by
  unfold npGroupedOp
  simp only
  apply List.map_congr_left
  intro g _
  generalize Int.ofNat g = gi
  rw [segments_lookup _ (mapVals_sorted f _ (prepare_sorted codes vals)), mapVals_filter,
    List.map_map, ← prepare_members]
  by_cases h : (prepare codes vals).filter (fun p => p.1 = gi) = []
  · simp [h]
  · simp [h, reduceSeg, Function.comp_def]

theorem npGroupedOp_prepare (op : Val → Val → Val)
    (codes : List Int) (vals : List Val) (size : Nat) (fill : Val) :
    npGroupedOp op (prepare codes vals) size fill
      = (List.range size).map fun (g : Nat) =>
          if members (Int.ofNat g) codes vals = [] then fill
          else fold1 op Val.nan (members (Int.ofNat g) codes vals) := by
  have := npGroupedOp_prepare_map op id codes vals size fill
  simpa using this

theorem nanGroupedOp_prepare (op : Val → Val → Val) (e : Val)
    (codes : List Int) (vals : List Val) (size : Nat) (fill : Val) :
    nanGroupedOp op e (prepare codes vals) size fill
      = (List.range size).map fun (g : Nat) =>
          let ms := members (Int.ofNat g) codes vals
          let x := if ms = [] then fill else fold1 op Val.nan (ms.map (substV e))
          let n := if ms = [] then Val.zero else fold1 Val.add Val.nan (ms.map notNullV)
          if e = Val.pinf ∨ e = Val.ninf then (if x = e ∧ n = Val.zero then fill else x) else x := by
  unfold nanGroupedOp
  simp only
  rw [substNaN_eq, notNullVals_eq, npGroupedOp_prepare_map, npGroupedOp_prepare_map]
  by_cases he : e = Val.pinf ∨ e = Val.ninf
  · simp only [he, if_true]
    rw [List.zipWith_map, List.zipWith_self]
  · simp only [he, if_false]

theorem fold1_subst (op : Val → Val → Val) (e : Val) (hl : ∀ a, op e a = a) (hr : ∀ a, op a e = a)
    (d : Val) (ms : List Val) (hne : ms ≠ []) :
    fold1 op d (ms.map (substV e)) = (dropNaN ms).foldl op e := by
  rw [fold1_eq_foldl hl d (by simpa using hne)]
  exact foldl_subst e hr e ms

theorem fold1_add (d : Val) (ms : List Val) (hne : ms ≠ []) : fold1 Val.add d ms = vsum ms :=
  fold1_eq_foldl Val.add_zero_left d hne

theorem fold1_mul (d : Val) (ms : List Val) (hne : ms ≠ []) : fold1 Val.mul d ms = vprod ms :=
  fold1_eq_foldl Val.mul_one_left d hne

theorem fold1_dflt (op : Val → Val → Val) (d d' : Val) (ms : List Val) (hne : ms ≠ []) :
    fold1 op d ms = fold1 op d' ms := by
  cases ms with
  | nil => exact absurd rfl hne
  | cons x xs => rfl

theorem vsum_notNull (ms : List Val) : vsum (ms.map notNullV) = Val.ofNat (dropNaN ms).length := by
  induction ms with
  | nil => exact Val.ofNat_zero.symm
  | cons x xs ih =>
    rw [List.map_cons, vsum_cons, ih, dropNaN_cons]
    cases hx : x.isNaN
    · rw [show notNullV x = Val.ofNat 1 by simp [notNullV, hx, Val.one, Val.ofNat], Val.ofNat_add, Nat.add_comm]; rfl
    · rw [show notNullV x = Val.zero by simp [notNullV, hx], Val.add_zero_left]; rfl

theorem ofNat_eq_zero (n : Nat) : Val.ofNat n = Val.zero ↔ n = 0 := by
  simp [Val.ofNat, Val.zero]

theorem sqV_zero : sqV Val.zero = Val.zero := by
  simp [sqV, Val.mul, Val.zero]

theorem slot_of_ne {k : Kernel} {fill x : Val} {ms : List Val} (h : ms ≠ [] → x = blockVal k fill ms) :
    (if ms = [] then fill else x) = blockVal k fill ms := by
  by_cases hm : ms = []
  · rw [if_pos hm, hm, blockVal_nil]
  · rw [if_neg hm, h hm]

theorem slot_sum (fill : Val) (ms : List Val) :
    (if ms = [] then fill else fold1 Val.add Val.nan ms) = blockVal .sum fill ms :=
  slot_of_ne fun h => by rw [fold1_add _ _ h, blockVal_of_noskip _ _ _ rfl h]; rfl

theorem slot_prod (fill : Val) (ms : List Val) :
    (if ms = [] then fill else fold1 Val.mul Val.nan ms) = blockVal .prod fill ms :=
  slot_of_ne fun h => by rw [fold1_mul _ _ h, blockVal_of_noskip _ _ _ rfl h]; rfl

theorem slot_max (fill : Val) (ms : List Val) :
    (if ms = [] then fill else fold1 Val.max Val.nan ms) = blockVal .max fill ms :=
  slot_of_ne fun h => by rw [blockVal_of_noskip _ _ _ rfl h]; exact fold1_dflt _ _ _ _ h

theorem slot_min (fill : Val) (ms : List Val) :
    (if ms = [] then fill else fold1 Val.min Val.nan ms) = blockVal .min fill ms :=
  slot_of_ne fun h => by rw [blockVal_of_noskip _ _ _ rfl h]; exact fold1_dflt _ _ _ _ h

theorem slot_sumsq (fill : Val) (ms : List Val) :
    (if ms = [] then fill else fold1 Val.add Val.nan (ms.map sqV)) = blockVal .sumsq fill ms :=
  slot_of_ne fun h => by rw [fold1_add _ _ (by simpa using h), blockVal_of_noskip _ _ _ rfl h]; rfl

theorem slot_nansum (fill : Val) (ms : List Val) :
    (if ms = [] then fill else fold1 Val.add Val.nan (ms.map (substV Val.zero)))
      = blockVal .nansum fill ms :=
  slot_of_ne fun h => by
    rw [fold1_subst _ _ Val.add_zero_left Val.add_zero_right _ _ h,
      blockVal_skip_of_ne (r := vsum) rfl rfl (fun _ _ => rfl) h]
    rfl

theorem slot_nanprod (fill : Val) (ms : List Val) :
    (if ms = [] then fill else fold1 Val.mul Val.nan (ms.map (substV Val.one)))
      = blockVal .nanprod fill ms :=
  slot_of_ne fun h => by
    rw [fold1_subst _ _ Val.mul_one_left Val.mul_one_right _ _ h,
      blockVal_skip_of_ne (r := vprod) rfl rfl (fun _ _ => rfl) h]
    rfl

theorem slot_nansumsq (fill : Val) (ms : List Val) :
    (if ms = [] then fill else fold1 Val.add Val.nan (ms.map fun v => sqV (substV Val.zero v)))
      = blockVal .nansumsq fill ms :=
  slot_of_ne fun h => by
    rw [fold1_add _ _ (by simpa using h),
      blockVal_skip_of_ne (r := fun ms => vsum (ms.map sqV)) rfl rfl (fun _ _ => rfl) h]
    exact foldl_map_subst sqV Val.zero (fun a => by rw [sqV_zero, Val.add_zero_right]) Val.zero ms

theorem slot_nanlen (fill : Val) (ms : List Val) :
    (if ms = [] then fill else fold1 Val.add Val.nan (ms.map notNullV))
      = blockVal .nanlen fill ms :=
  slot_of_ne fun h => by
    rw [fold1_add _ _ (by simpa using h), vsum_notNull,
      blockVal_skip_of_ne (k := .nanlen) (r := vcount) rfl Val.ofNat_zero.symm (fun _ _ => rfl) h]
    rfl

/-- the slot computed by `_nan_grouped_op` with a ±inf substitute: the "number of valid values = 0" test singles out
    exactly the absent and the all-NaN groups, so a group whose true extreme is the substitute keeps it. -/
theorem slot_nanext {op : Val → Val → Val} {e : Val} {nk : Kernel} (x : NanExtreme op e nk) (fill : Val)
    (ms : List Val) :
    (let v := if ms = [] then fill else fold1 op Val.nan (ms.map (substV e))
     let n := if ms = [] then Val.zero else fold1 Val.add Val.nan (ms.map notNullV)
     if v = e ∧ n = Val.zero then fill else v)
      = blockVal nk fill ms := by
  rw [x.blockVal_eq, x.kEval_eq]
  by_cases h : ms = []
  · subst h; simp [dropNaN]
  · simp only [if_neg h]
    rw [fold1_subst _ _ x.id_left x.id_right _ _ h, fold1_add _ _ (by simpa using h), vsum_notNull]
    by_cases hd : dropNaN ms = []
    · simp [hd, ofNat_eq_zero]
    · have : (dropNaN ms).length ≠ 0 := by simpa using hd
      simp [hd, ofNat_eq_zero, this]

theorem nanGroupedOp_eq_blockVal {op : Val → Val → Val} {e : Val} {nk : Kernel} (x : NanExtreme op e nk)
    (he : e = Val.pinf ∨ e = Val.ninf) (codes : List Int) (vals : List Val) (size : Nat) (fill : Val) :
    nanGroupedOp op e (prepare codes vals) size fill
      = (List.range size).map fun (g : Nat) => blockVal nk fill (members (Int.ofNat g) codes vals) := by
  rw [nanGroupedOp_prepare]
  refine List.map_congr_left fun g _ => ?_
  rw [if_pos he]
  exact slot_nanext x fill _

theorem zero_ne_inf : ¬ (Val.zero = Val.pinf ∨ Val.zero = Val.ninf) := by simp [Val.zero]
theorem one_ne_inf : ¬ (Val.one = Val.pinf ∨ Val.one = Val.ninf) := by simp [Val.one]

theorem slot_mean (fill : Val) (ms : List Val) :
    Val.div (if ms = [] then fill else fold1 Val.add Val.nan ms)
        (if ms = [] then Val.zero else fold1 Val.add Val.nan (ms.map notNullV))
      = if ms = [] then Val.div fill Val.zero else kEval .mean ms := by
  by_cases h : ms = []
  · simp [h]
  · simp only [if_neg h]
    rw [fold1_add _ _ h, fold1_add _ _ (by simpa using h), vsum_notNull]
    exact div_vsum_vcount_dropNaN ms

theorem slot_nanmean (fill : Val) (ms : List Val) :
    Val.div (if ms = [] then fill else fold1 Val.add Val.nan (ms.map (substV Val.zero)))
        (if ms = [] then Val.zero else fold1 Val.add Val.nan (ms.map notNullV))
      = if ms = [] then Val.div fill Val.zero else kEval .nanmean ms := by
  by_cases h : ms = []
  · simp [h]
  · simp only [if_neg h]
    rw [fold1_subst _ _ Val.add_zero_left Val.add_zero_right _ _ h, fold1_add _ _ (by simpa using h),
      vsum_notNull]
    rfl

theorem run_mean (codes : List Int) (vals : List Val) (size : Nat) (fill : Val) :
    run? .mean codes vals size fill
      = some ((List.range size).map fun (g : Nat) =>
          if members (Int.ofNat g) codes vals = [] then Val.div fill Val.zero
          else kEval .mean (members (Int.ofNat g) codes vals)) := by
  simp only [run?, notNullVals_eq, npGroupedOp_prepare, npGroupedOp_prepare_map, List.zipWith_map,
    List.zipWith_self, slot_mean]

/-- an all-NaN group is present: both sides are `0/0 = nan` -/
theorem run_nanmean (codes : List Int) (vals : List Val) (size : Nat) (fill : Val) :
    run? .nanmean codes vals size fill
      = some ((List.range size).map fun (g : Nat) =>
          if members (Int.ofNat g) codes vals = [] then Val.div fill Val.zero
          else kEval .nanmean (members (Int.ofNat g) codes vals)) := by
  simp only [run?, notNullVals_eq, nanGroupedOp_prepare, if_neg zero_ne_inf, npGroupedOp_prepare_map,
    List.zipWith_map, List.zipWith_self, slot_nanmean]

/-- all the kernels `aggregate_flox.py` reduces in one `reduceat` pass -/
theorem run_eq_blockVal (k : Kernel)
    (hk : k ∈ [.sum, .prod, .max, .min, .nansum, .nanprod, .nanmax, .nanmin, .sumsq, .nansumsq, .nanlen])
    (codes : List Int) (vals : List Val) (size : Nat) (fill : Val) :
    run? k codes vals size fill
      = some ((List.range size).map fun (g : Nat) => blockVal k fill (members (Int.ofNat g) codes vals)) := by
  simp only [List.mem_cons, List.not_mem_nil, or_false] at hk
  rcases hk with rfl | rfl | rfl | rfl | rfl | rfl | rfl | rfl | rfl | rfl | rfl
  · simp only [run?, npGroupedOp_prepare, slot_sum]
  · simp only [run?, npGroupedOp_prepare, slot_prod]
  · simp only [run?, npGroupedOp_prepare, slot_max]
  · simp only [run?, npGroupedOp_prepare, slot_min]
  · simp only [run?, nanGroupedOp_prepare, if_neg zero_ne_inf, slot_nansum]
  · simp only [run?, nanGroupedOp_prepare, if_neg one_ne_inf, slot_nanprod]
  · exact congrArg some (nanGroupedOp_eq_blockVal nanmaxExt (Or.inr rfl) codes vals size fill)
  · exact congrArg some (nanGroupedOp_eq_blockVal nanminExt (Or.inl rfl) codes vals size fill)
  · simp only [run?, sqVals_eq, npGroupedOp_prepare_map, slot_sumsq]
  · simp only [run?, sqVals_substNaN_eq,
      npGroupedOp_prepare_map Val.add (fun v => sqV (substV Val.zero v)), slot_nansumsq]
  · simp only [run?, notNullVals_eq, npGroupedOp_prepare_map, slot_nanlen]

end EngineFlox

/-- C01: flox's engine computes, in every slot, the block value of the group's members in original order.
    `_hlen` is not used: `zip` and `members` both stop at the shorter array. -/
theorem floxEngine_eq_blockVal (k : Kernel)
    (hk : k ∈ [.sum, .prod, .max, .min, .nansum, .nanprod, .nanmax, .nanmin, .sumsq, .nansumsq, .nanlen])
    (codes : List Int) (vals : List Val) (size : Nat) (fill : Val) (_hlen : codes.length = vals.length) :
    EngineFlox.run? k codes vals size fill
      = some ((List.range size).map fun (g : Nat) => blockVal k fill (members (Int.ofNat g) codes vals)) :=
  EngineFlox.run_eq_blockVal k hk codes vals size fill

open EngineFlox in
theorem floxEngine_mean_slot (codes : List Int) (vals : List Val) (size : Nat) (fill : Val)
    (_hlen : codes.length = vals.length) :
    ∃ r, EngineFlox.run? .mean codes vals size fill = some r ∧ r.length = size ∧
      ∀ g : Nat, g < size → members (Int.ofNat g) codes vals ≠ [] →
        r[g]? = some (kEval .mean (members (Int.ofNat g) codes vals)) := by
  refine ⟨_, run_mean codes vals size fill, by simp, ?_⟩
  intro g hg hne
  simp only [List.getElem?_map, List.getElem?_range hg, Option.map_some, if_neg hne]

open EngineFlox in
/-- an all-NaN group has a member; its value is `nan` (`kEval_nanmean_allNaN`) -/
theorem floxEngine_nanmean_slot (codes : List Int) (vals : List Val) (size : Nat) (fill : Val)
    (_hlen : codes.length = vals.length) :
    ∃ r, EngineFlox.run? .nanmean codes vals size fill = some r ∧ r.length = size ∧
      ∀ g : Nat, g < size → members (Int.ofNat g) codes vals ≠ [] →
        r[g]? = some (kEval .nanmean (members (Int.ofNat g) codes vals)) := by
  refine ⟨_, run_nanmean codes vals size fill, by simp, ?_⟩
  intro g hg hne
  simp only [List.getElem?_map, List.getElem?_range hg, Option.map_some, if_neg hne]

theorem floxGrouped_eq_blockVal (k : Kernel)
    (hk : k ∈ [.sum, .prod, .max, .min, .nansum, .nanprod, .nanmax, .nanmin, .sumsq, .nansumsq, .nanlen])
    (codes : List Int) (vals : List Val) (size : Nat) (fill : Val) :
    floxGrouped k codes vals size fill
      = (List.range size).map fun (g : Nat) => blockVal k fill (members (Int.ofNat g) codes vals) := by
  unfold floxGrouped
  rw [EngineFlox.run_eq_blockVal k hk codes vals size fill]

/-- C01: engine independence at the kernel level -/
theorem floxGrouped_eq_npgGrouped (k : Kernel)
    (hk : k ∈ [.sum, .prod, .max, .min, .nansum, .nanprod, .nanmax, .nanmin, .sumsq, .nansumsq, .nanlen])
    (codes : List Int) (vals : List Val) (size : Nat) (fill : Val) (hlen : codes.length = vals.length)
    (hfill : k = .nanlen ∨ k = .nansumsq → fill = Val.zero) :
    floxGrouped k codes vals size fill = npgGrouped k codes vals size fill := by
  have hna : isArgKernel k = false := by
    simp only [List.mem_cons, List.not_mem_nil, or_false] at hk
    rcases hk with rfl | rfl | rfl | rfl | rfl | rfl | rfl | rfl | rfl | rfl | rfl <;> rfl
  rw [floxGrouped_eq_blockVal k hk codes vals size fill, npgGrouped_eq_blockVal k fill codes vals size hna hfill]

section Examples
open EngineFlox

private def exCodes : List Int := [2, 0, 2, 5, -1, 0, 1, 2]
private def exVals : List Val := [.fin 1, .nan, .pinf, .fin 3, .fin 4, .nan, .ninf, .fin (-2)]

/-- the stable sort really reorders, and keeps equal keys in original order -/
example : prepare exCodes exVals =
    [(-1, .fin 4), (0, .nan), (0, .nan), (1, .ninf), (2, .fin 1), (2, .pinf), (2, .fin (-2)), (5, .fin 3)] := by
  decide +kernel

example : segments (prepare exCodes exVals) =
    [(-1, [.fin 4]), (0, [.nan, .nan]), (1, [.ninf]), (2, [.fin 1, .pinf, .fin (-2)]), (5, [.fin 3])] := by
  decide +kernel

example : members 2 exCodes exVals = [.fin 1, .pinf, .fin (-2)] := by decide +kernel

/-- group 0 is all-NaN (→ fill), group 1's true maximum is `-inf` and is kept, group 3 is absent (→ fill);
    codes 5 and -1 are ignored -/
example : run? .nanmax exCodes exVals 4 (.fin 7) = some [.fin 7, .ninf, .pinf, .fin 7] := by
  decide +kernel
example : run? .nanmin exCodes exVals 4 (.fin 7) = some [.fin 7, .ninf, .fin (-2), .fin 7] := by
  decide +kernel
example : run? .sum exCodes exVals 4 (.fin 7) = some [.nan, .ninf, .pinf, .fin 7] := by
  decide +kernel
example : run? .nansum exCodes exVals 4 (.fin 7) = some [.fin 0, .ninf, .pinf, .fin 7] := by
  decide +kernel
example : run? .nanprod exCodes exVals 4 (.fin 7) = some [.fin 1, .ninf, .ninf, .fin 7] := by
  decide +kernel
example : run? .nanlen exCodes exVals 4 (.fin 7) = some [.fin 0, .fin 1, .fin 3, .fin 7] := by
  decide +kernel
example : run? .nanmean [1, 0, 1, 0] [.fin 3, .nan, .fin 4, .nan] 3 (.fin 7)
    = some [.nan, .fin (7/2), .pinf] := by
  decide +kernel

/-- the hypotheses of `floxEngine_eq_blockVal` are satisfiable -/
example : run? .nanmax exCodes exVals 4 (.fin 7)
    = some ((List.range 4).map fun (g : Nat) => blockVal .nanmax (.fin 7) (members (Int.ofNat g) exCodes exVals)) :=
  floxEngine_eq_blockVal .nanmax (by decide) exCodes exVals 4 (.fin 7) rfl

example : floxGrouped .nanmin exCodes exVals 4 (.fin 7) = npgGrouped .nanmin exCodes exVals 4 (.fin 7) :=
  floxGrouped_eq_npgGrouped .nanmin (by decide) exCodes exVals 4 (.fin 7) rfl (by decide)

/-- the fill hypothesis of `floxGrouped_eq_npgGrouped` is necessary: on an all-NaN group the flox engine returns 0
    while numpy_groupies (which drops NaN before grouping) returns `fill` -/
example : floxGrouped .nanlen [0] [.nan] 1 (.fin 7) = [.fin 0]
    ∧ npgGrouped .nanlen [0] [.nan] 1 (.fin 7) = [.fin 7] := by decide +kernel
example : floxGrouped .nansumsq [0] [.nan] 1 (.fin 7) = [.fin 0]
    ∧ npgGrouped .nansumsq [0] [.nan] 1 (.fin 7) = [.fin 7] := by decide +kernel

end Examples

/-! ### numbagg: `nanmax` / `nanmin` of a group that has a valid member (for `FloxProps/C20.lean`) -/

theorem numbaggGrouped_slot (k : Kernel) (hk : k = .nanmax ∨ k = .nanmin) (codes : List Int) (vals : List Val)
    (size : Nat) (fill : Val) (g : Nat) (hg : g < size)
    (hvalid : dropNaN (members (Int.ofNat g) codes vals) ≠ []) :
    (numbaggGrouped k codes vals size fill)[g]? = some (kEval k (members (Int.ofNat g) codes vals)) := by
  have hne : members (Int.ofNat g) codes vals ≠ [] := by
    intro h; rw [h] at hvalid; exact hvalid rfl
  have h1 : (members (Int.ofNat g) codes vals).isEmpty = false := by simpa using hne
  have h2 : (dropNaN (members (Int.ofNat g) codes vals)).isEmpty = false := by simpa using hvalid
  rcases hk with rfl | rfl <;>
  · unfold numbaggGrouped
    simp only [numbaggHas, Bool.not_true, Bool.false_eq_true, if_false]
    rw [show ∀ F : Nat → Val, ((List.range size).map F)[g]? = some (F g) from fun F => by simp [hg]]
    simp only [Kernel.skipsNaN, if_true, h1, h2, Bool.false_eq_true, if_false, kEval, dropNaN_idem]

end Flox
