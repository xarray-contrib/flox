/-
  Map-reduce with reindex at the block stage + `_simple_combine`:
  for every chunking and every tree shape (`split_every`) the result is the dense intermediate of the whole array.
-/
import FloxProofs.TreeReduce
import FloxProofs.Table

namespace Flox

def segsOf (chunks : List Nat) (codes : List Int) (vals : List Val) : Segs :=
  (splitBy chunks codes).zip (splitBy chunks vals)

theorem segsOf_aligned (chunks : List Nat) (codes : List Int) (vals : List Val)
    (hlen : codes.length = vals.length) : Aligned (segsOf chunks codes vals) :=
  splitBy_zip_aligned chunks codes vals hlen

theorem segsOf_catC (chunks : List Nat) (codes : List Int) (vals : List Val)
    (h : codes.length ≤ chunks.sum) : catC (segsOf chunks codes vals) = codes :=
  splitBy_zip_fst chunks codes vals h

theorem segsOf_catV (chunks : List Nat) (codes : List Int) (vals : List Val)
    (h : vals.length ≤ chunks.sum) : catV (segsOf chunks codes vals) = vals :=
  splitBy_zip_snd chunks codes vals h

theorem segsOf_ne_nil (chunks : List Nat) (codes : List Int) (vals : List Val) (h : chunks ≠ []) :
    segsOf chunks codes vals ≠ [] :=
  splitBy_zip_ne_nil chunks codes vals h

abbrev denseNode (R : Resolved) (n : Nat) (p : List Int × List Val) : Inter :=
  denseInter R.chunk R.interFills n p.1 p.2

theorem simpleCombine_denseNodes (R : Resolved) (n : Nat) (segs : Segs) (hne : segs ≠ []) (hal : Aligned segs)
    (ok : SimpleOK R) :
    simpleCombine R true (segs.map (denseNode R n))
      = denseInter R.chunk R.interFills n (catC segs) (catV segs) := by
  have h := simpleCombine_fcols R (rangeKeys n) (List.range n) (by simp [rangeKeys])
    (segs.map fun p (g : Nat) => members (Int.ofNat g) p.1 p.2) (by simpa using hne) ok
  rw [List.map_map] at h
  refine Eq.trans h ?_
  simp only [denseInter, denseCols, fcols, List.map_map, Function.comp_def, members_cat _ segs hal]

def catSeg (segs : Segs) : List Int × List Val := (catC segs, catV segs)

theorem catSeg_flatten (L : List Segs) : catSeg (L.map catSeg) = catSeg L.flatten := by
  have h1 : catC (L.map catSeg) = (L.map catC).flatten := by rw [catC, List.map_map]; rfl
  have h2 : catV (L.map catSeg) = (L.map catV).flatten := by rw [catV, List.map_map]; rfl
  rw [catSeg, h1, h2, ← catC_flatten, ← catV_flatten]
  rfl

theorem tree_denseNodes (R : Resolved) (n se : Nat)
    (ok : SimpleOK R)
    (segs : Segs) (hne : segs ≠ []) (hal : Aligned segs) :
    simpleCombine R true (treeReduce (simpleCombine R true) se (segs.map (denseNode R n)))
      = denseInter R.chunk R.interFills n (catC segs) (catV segs) :=
  treeReduce_nodes (Q := fun p : List Int × List Val => p.1.length = p.2.length) (cat := catSeg) catSeg_flatten
    (fun grp hne hal => ⟨Aligned.cat_length hal, simpleCombine_denseNodes R n grp hne hal ok⟩)
    se segs hne hal

theorem offsets_length (chunks : List Nat) : (offsets chunks).length = chunks.length := by
  have gen : ∀ (cs : List Nat) (acc : List Nat × Nat),
      (cs.foldl (fun (acc : List Nat × Nat) c => (acc.1 ++ [acc.2], acc.2 + c)) acc).1.length
        = acc.1.length + cs.length := by
    intro cs
    induction cs with
    | nil => intro acc; rfl
    | cons c cs ih => intro acc; simp only [List.foldl_cons, ih, List.length_append, List.length_cons,
        List.length_nil]; omega
  simpa [offsets] using gen chunks ([], 0)

theorem map_zip_zip_ignore {α β γ δ} (as : List α) (bs : List β) (cs : List γ) (f : α → β → δ)
    (g : α × β × γ → δ) (hg : ∀ a b c, g (a, b, c) = f a b) (h : bs.length ≤ cs.length) :
    (as.zip (bs.zip cs)).map g = (as.zip bs).map fun p => f p.1 p.2 := by
  conv => rhs; rw [← List.map_fst_zip (l₁ := bs) (l₂ := cs) h, List.zip_map_right, List.map_map]
  exact List.map_congr_left fun p _ => hg p.1 p.2.1 p.2.2

theorem blockStage_eq (c : Call) (rb : Bool) (chunks : List Nat) (keys : List Key) (vals : List Val)
    (harg : c.R.isArg = false) :
    blockStage c rb chunks keys vals
      = ((splitBy chunks keys).zip (splitBy chunks vals)).map fun p =>
          chunkReduce c.eng c.R.chunk c.R.interFills p.1 p.2 (if rb then some c.ngroups else none) c.sort := by
  unfold blockStage
  simp only [harg, Bool.false_eq_true, if_false]
  apply map_zip_zip_ignore _ _ _
    (fun ks vs => chunkReduce c.eng c.R.chunk c.R.interFills ks vs (if rb then some c.ngroups else none) c.sort)
  · intro a b c; rfl
  · simp [splitBy_length, offsets_length]

theorem blockStage_dense (c : Call) (n : Nat) (chunks : List Nat) (codes : List Int) (vals : List Val)
    (heng : c.eng = .npg) (hn : c.ngroups = n) (harg : c.R.isArg = false)
    (hnoarg : ∀ k ∈ c.R.chunk, isArgKernel k = false)
    (hz : ∀ p ∈ c.R.chunk.zip c.R.interFills, (p.1 = .nanlen ∨ p.1 = .nansumsq) → p.2 = Val.zero)
    (hsum : codes.length ≤ chunks.sum)
    (hcodes : ∀ c ∈ codes, -1 ≤ c ∧ c < (n : Int)) :
    blockStage c true chunks (codes.map fun (c : Int) => (some (c : Rat) : Key)) vals
      = (segsOf chunks codes vals).map (denseNode c.R n) := by
  rw [blockStage_eq c true chunks _ vals harg, splitBy_map, List.zip_map_left, List.map_map, heng, hn]
  apply List.map_congr_left
  intro p hp
  simp only [Function.comp, Prod.map_fst, Prod.map_snd, id]
  apply chunkReduce_dense' _ _ _ _ _ _ _ hnoarg hz
  intro x hx
  apply hcodes
  rw [← segsOf_catC chunks codes vals hsum]
  exact List.mem_flatten.mpr ⟨p.1, List.mem_map.mpr ⟨p, hp, rfl⟩, hx⟩

theorem mapreduce_dense' (R : Resolved) (c : Call) (n : Nat) (chunks : List Nat) (codes : List Int)
    (vals : List Val) (se : Nat)
    (hR : c.R = R) (heng : c.eng = .npg) (hn : c.ngroups = n) (harg : R.isArg = false)
    (ok : SimpleOK R)
    (hnoarg : ∀ k ∈ R.chunk, isArgKernel k = false)
    (hz : ∀ p ∈ R.chunk.zip R.interFills, (p.1 = .nanlen ∨ p.1 = .nansumsq) → p.2 = Val.zero)
    (hchunks : chunks ≠ []) (hsum : chunks.sum = codes.length) (hlen : codes.length = vals.length)
    (hcodes : ∀ c ∈ codes, -1 ≤ c ∧ c < (n : Int)) :
    simpleCombine R true (treeReduce (simpleCombine R true) se
        (blockStage c true chunks (codes.map fun (c : Int) => (some (c : Rat) : Key)) vals))
      = denseInter R.chunk R.interFills n codes vals := by
  subst hR
  rw [blockStage_dense c n chunks codes vals heng hn harg hnoarg hz (by omega) hcodes,
    tree_denseNodes c.R n se ok _ (segsOf_ne_nil chunks codes vals hchunks)
      (segsOf_aligned chunks codes vals hlen),
    segsOf_catC chunks codes vals (by omega), segsOf_catV chunks codes vals (by omega)]

/-- `mapreduce_dense'` with hypotheses it does not need (`_hpos`, the `.len` case of `hz`) -/
theorem mapreduce_dense (R : Resolved) (c : Call) (n : Nat) (chunks : List Nat) (codes : List Int)
    (vals : List Val) (se : Nat)
    (hR : c.R = R) (heng : c.eng = .npg) (hn : c.ngroups = n) (harg : R.isArg = false)
    (hc : R.chunk.length = R.combine.length) (hf : R.chunk.length = R.interFills.length)
    (hlaw : ∀ j (hj : j < R.chunk.length),
      Law R.chunk[j] (R.combine[j]'(by omega)) (R.interFills[j]'(by omega)))
    (hnoarg : ∀ k ∈ R.chunk, isArgKernel k = false)
    (hz : ∀ p ∈ R.chunk.zip R.interFills, (p.1 = .nanlen ∨ p.1 = .nansumsq ∨ p.1 = .len) → p.2 = Val.zero)
    (hchunks : chunks ≠ []) (_hpos : ∀ m ∈ chunks, 0 < m)
    (hsum : chunks.sum = codes.length) (hlen : codes.length = vals.length)
    (hcodes : ∀ c ∈ codes, -1 ≤ c ∧ c < (n : Int)) :
    simpleCombine R true (treeReduce (simpleCombine R true) se
        (blockStage c true chunks (codes.map fun (c : Int) => (some (c : Rat) : Key)) vals))
      = denseInter R.chunk R.interFills n codes vals :=
  mapreduce_dense' R c n chunks codes vals se hR heng hn harg ⟨hc, hf, hlaw⟩ hnoarg
    (fun p hp h => hz p hp (h.elim Or.inl (fun h' => Or.inr (Or.inl h')))) hchunks hsum hlen hcodes

theorem mapreduce_dense_chunking_irrelevant (R : Resolved) (c : Call) (n : Nat) (chunks₁ chunks₂ : List Nat)
    (codes : List Int) (vals : List Val) (se₁ se₂ : Nat)
    (hR : c.R = R) (heng : c.eng = .npg) (hn : c.ngroups = n) (harg : R.isArg = false)
    (hc : R.chunk.length = R.combine.length) (hf : R.chunk.length = R.interFills.length)
    (hlaw : ∀ j (hj : j < R.chunk.length),
      Law R.chunk[j] (R.combine[j]'(by omega)) (R.interFills[j]'(by omega)))
    (hnoarg : ∀ k ∈ R.chunk, isArgKernel k = false)
    (hz : ∀ p ∈ R.chunk.zip R.interFills, (p.1 = .nanlen ∨ p.1 = .nansumsq) → p.2 = Val.zero)
    (hchunks₁ : chunks₁ ≠ []) (hsum₁ : chunks₁.sum = codes.length)
    (hchunks₂ : chunks₂ ≠ []) (hsum₂ : chunks₂.sum = codes.length)
    (hlen : codes.length = vals.length)
    (hcodes : ∀ c ∈ codes, -1 ≤ c ∧ c < (n : Int)) :
    simpleCombine R true (treeReduce (simpleCombine R true) se₁
        (blockStage c true chunks₁ (codes.map fun (c : Int) => (some (c : Rat) : Key)) vals))
      = simpleCombine R true (treeReduce (simpleCombine R true) se₂
        (blockStage c true chunks₂ (codes.map fun (c : Int) => (some (c : Rat) : Key)) vals)) := by
  rw [mapreduce_dense' R c n chunks₁ codes vals se₁ hR heng hn harg ⟨hc, hf, hlaw⟩ hnoarg hz hchunks₁ hsum₁ hlen hcodes,
    mapreduce_dense' R c n chunks₂ codes vals se₂ hR heng hn harg ⟨hc, hf, hlaw⟩ hnoarg hz hchunks₂ hsum₂ hlen hcodes]

theorem mapreduce_dense_eq_single_block (R : Resolved) (c : Call) (n : Nat) (chunks : List Nat)
    (codes : List Int) (vals : List Val) (se : Nat) (sort : Bool)
    (hR : c.R = R) (heng : c.eng = .npg) (hn : c.ngroups = n) (harg : R.isArg = false)
    (ok : SimpleOK R)
    (hnoarg : ∀ k ∈ R.chunk, isArgKernel k = false)
    (hz : ∀ p ∈ R.chunk.zip R.interFills, (p.1 = .nanlen ∨ p.1 = .nansumsq) → p.2 = Val.zero)
    (hchunks : chunks ≠ []) (hsum : chunks.sum = codes.length) (hlen : codes.length = vals.length)
    (hcodes : ∀ c ∈ codes, -1 ≤ c ∧ c < (n : Int)) :
    simpleCombine R true (treeReduce (simpleCombine R true) se
        (blockStage c true chunks (codes.map fun (c : Int) => (some (c : Rat) : Key)) vals))
      = chunkReduce .npg R.chunk R.interFills (codes.map fun (c : Int) => (some (c : Rat) : Key)) vals
          (some n) sort := by
  rw [mapreduce_dense' R c n chunks codes vals se hR heng hn harg ok hnoarg hz hchunks hsum hlen hcodes,
    chunkReduce_dense' R.chunk R.interFills codes vals n sort hcodes hnoarg hz]

section Examples

/-- the `Law` hypothesis is satisfiable: the `sum` column -/
theorem Law_sum : Law .sum .sum Val.zero := column_law (by decide)

def exR : Resolved :=
  { name := "sum", numpy := [.sum], chunk := [.sum], combine := [.sum], interFills := [Val.zero],
    numpyFills := [Val.zero], finalFill := some Val.zero, userFill := none, minCount := 0,
    finalize := "none", ddof := 0, isArg := false }

def exCall (n se : Nat) : Call :=
  { R := exR, eng := .npg, sort := true, ngroups := n, knownLabels := true, fillArg := none, splitEvery := se }

/-- all hypotheses of `mapreduce_dense'` are jointly satisfiable (for arbitrary data) -/
example (n : Nat) (chunks : List Nat) (codes : List Int) (vals : List Val) (se : Nat)
    (hchunks : chunks ≠ []) (hsum : chunks.sum = codes.length) (hlen : codes.length = vals.length)
    (hcodes : ∀ c ∈ codes, -1 ≤ c ∧ c < (n : Int)) :
    simpleCombine exR true (treeReduce (simpleCombine exR true) se
        (blockStage (exCall n se) true chunks (codes.map fun (c : Int) => (some (c : Rat) : Key)) vals))
      = denseInter [.sum] [Val.zero] n codes vals :=
  mapreduce_dense' exR (exCall n se) n chunks codes vals se rfl rfl rfl rfl
    ⟨rfl, rfl, by
      intro j hj
      have : j = 0 := by simp [exR] at hj; omega
      subst this
      exact Law_sum⟩
    (by simp [exR, isArgKernel]) (by simp [exR]) hchunks hsum hlen hcodes

def exR2 : Resolved :=
  { name := "nanmean", numpy := [.nanmean], chunk := [.nansum, .nanlen, .nanmax, .nanfirst],
    combine := [.sum, .sum, .nanmax, .nanfirst], interFills := [Val.zero, Val.zero, Val.ninf, Val.nan],
    numpyFills := [Val.nan], finalFill := some Val.nan, userFill := none, minCount := 0,
    finalize := "mean", ddof := 0, isArg := false }

def exCall2 (se : Nat) : Call :=
  { R := exR2, eng := .npg, sort := true, ngroups := 4, knownLabels := true, fillArg := none, splitEvery := se }

-- group 1 has no member, group 3 only a NaN member
def exCodes_dt : List Int := [0, -1, 2, 0, 2, 2, 0, 3]
def exVals_dt : List Val := [.fin 1, .nan, .fin 3, .nan, .fin 5, .nan, .fin 2, .nan]
def exKeys : List Key := exCodes_dt.map fun (c : Int) => (some (c : Rat) : Key)

example :
    simpleCombine exR2 true (treeReduce (simpleCombine exR2 true) 2
        (blockStage (exCall2 2) true [2, 1, 3, 2] exKeys exVals_dt))
      = denseInter exR2.chunk exR2.interFills 4 exCodes_dt exVals_dt := by decide +kernel

example :
    simpleCombine exR2 true (treeReduce (simpleCombine exR2 true) 8
        (blockStage (exCall2 8) true [1, 1, 1, 1, 1, 1, 1, 1] exKeys exVals_dt))
      = denseInter exR2.chunk exR2.interFills 4 exCodes_dt exVals_dt := by decide +kernel

example :
    chunkReduce .npg exR2.chunk exR2.interFills exKeys exVals_dt (some 4) true
      = denseInter exR2.chunk exR2.interFills 4 exCodes_dt exVals_dt := by decide +kernel

/-- the dense intermediate really contains data (not a degenerate equality) -/
example :
    (denseInter exR2.chunk exR2.interFills 4 exCodes_dt exVals_dt).cols
      = [[.fin 3, .fin 0, .fin 8, .fin 0], [.fin 2, .fin 0, .fin 2, .fin 0],
         [.fin 2, .ninf, .fin 5, .ninf], [.fin 1, .nan, .fin 3, .nan]] := by decide +kernel

/-- `chunks ≠ []` cannot be dropped: with no block at all the combine of nothing has no groups -/
example :
    simpleCombine exR true (treeReduce (simpleCombine exR true) 2 (blockStage (exCall 2 2) true [] [] []))
      ≠ denseInter [.sum] [Val.zero] 2 [] [] := by decide +kernel

/-- the fill condition on `nanlen` cannot be dropped: an all-NaN group gets the fill from the `_len` patch
    of the engine wrapper, while `blockVal` stores the count 0 -/
example :
    chunkReduce .npg [.nanlen] [Val.fin 7] [some 0] [Val.nan] (some 1) true
      ≠ denseInter [.nanlen] [Val.fin 7] 1 [0] [Val.nan] := by decide +kernel

/-- same for `nansum_of_squares` (numpy_groupies: all-NaN group looks absent ↦ fill; `blockVal`: 0) -/
example :
    chunkReduce .npg [.nansumsq] [Val.fin 7] [some 0] [Val.nan] (some 1) true
      ≠ denseInter [.nansumsq] [Val.fin 7] 1 [0] [Val.nan] := by decide +kernel

/-- arg kernels are excluded: the engine returns block positions, `kEval` the index among the members -/
example :
    chunkReduce .npg [.argmax] [Val.fin 0] [some 1, some 0] [Val.fin 5, Val.fin 7] (some 2) true
      ≠ denseInter [.argmax] [Val.fin 0] 2 [1, 0] [Val.fin 5, Val.fin 7] := by decide +kernel

end Examples

end Flox
