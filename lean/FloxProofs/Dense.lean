/-
  Dense block stage: with `reindex=True` (`expected = some n`) and the numpy_groupies engine, `chunk_reduce`
  stores in every intermediate column and every slot `g < n` the value `blockVal k f (members g codes vals)`.
-/
import FloxProofs.NpgContract

namespace Flox

def denseCols (ks : List Kernel) (fills : List Val) (n : Nat) (codes : List Int) (vals : List Val) :
    List (List Val) :=
  (ks.zip fills).map fun p =>
    (List.range n).map fun (g : Nat) => blockVal p.1 p.2 (members (Int.ofNat g) codes vals)

def denseInter (ks : List Kernel) (fills : List Val) (n : Nat) (codes : List Int) (vals : List Val) : Inter :=
  { groups := rangeKeys n, cols := denseCols ks fills n codes vals }

def fcols {α} (ks : List Kernel) (fills : List Val) (L : List α) (m : α → List Val) : List (List Val) :=
  (ks.zip fills).map fun p => L.map fun a => blockVal p.1 p.2 (m a)

theorem denseCols_eq_fcols (ks : List Kernel) (fills : List Val) (n : Nat) (codes : List Int) (vals : List Val) :
    denseCols ks fills n codes vals = fcols ks fills (List.range n) (fun g => members (Int.ofNat g) codes vals) := rfl

theorem fcols_append {α} (ks ks' : List Kernel) (fs fs' : List Val) (L : List α) (m : α → List Val)
    (h : ks.length = fs.length) :
    fcols (ks ++ ks') (fs ++ fs') L m = fcols ks fs L m ++ fcols ks' fs' L m := by
  simp only [fcols, List.zip_append h, List.map_append]

theorem factorize_code (c : Int) (n : Nat) (h : -1 ≤ c ∧ c < (n : Int)) :
    (if (c : Rat) ≤ ((n : Rat) - 1) ∧ 0 ≤ (c : Rat) ∧ (c : Rat).den = 1 then (c : Rat).num else -1) = c := by
  simp only [Rat.den_intCast, Rat.num_intCast, and_true]
  by_cases h0 : 0 ≤ c
  · have h1 : (0 : Rat) ≤ (c : Rat) := Rat.intCast_nonneg.mpr h0
    have h2 : (c : Rat) ≤ ((n : Rat) - 1) := by
      have : (c : Rat) ≤ (((n : Int) - 1 : Int) : Rat) := Rat.intCast_le_intCast.mpr (by omega)
      simpa [Rat.intCast_natCast] using this
    simp [h1, h2]
  · have h1 : ¬ (0 : Rat) ≤ (c : Rat) := fun h' => h0 (Rat.intCast_nonneg.mp h')
    simp only [h1, and_false, if_false]
    omega

theorem factorizeKeys_codes (codes : List Int) (n : Nat) (sort : Bool)
    (hcodes : ∀ c ∈ codes, -1 ≤ c ∧ c < (n : Int)) :
    factorizeKeys (codes.map fun (c : Int) => (some (c : Rat) : Key)) (some n) sort
      = ((List.range n).map fun (i : Nat) => (i : Rat), codes) := by
  unfold factorizeKeys
  simp only [List.map_map, Prod.mk.injEq, true_and]
  conv => rhs; rw [← List.map_id codes]
  apply List.map_congr_left
  intro c hc
  exact factorize_code c n (hcodes c hc)

theorem factorizeKeys_codes_length (keys : List Key) (expected : Option Nat) (sort : Bool) :
    (factorizeKeys keys expected sort).2.length = keys.length := by
  cases expected <;> simp [factorizeKeys]

theorem chunkReduce_groups_expected (eng : Eng) (ks : List Kernel) (fills : List Val) (keys : List Key)
    (vals : List Val) (n : Nat) (sort : Bool) :
    (chunkReduce eng ks fills keys vals (some n) sort).groups = rangeKeys n :=
  List.map_map

theorem chunkReduce_dense' (ks : List Kernel) (fills : List Val) (codes : List Int) (vals : List Val) (n : Nat)
    (sort : Bool)
    (hcodes : ∀ c ∈ codes, -1 ≤ c ∧ c < (n : Int))
    (hnoarg : ∀ k ∈ ks, isArgKernel k = false)
    (hz : ∀ p ∈ ks.zip fills, (p.1 = .nanlen ∨ p.1 = .nansumsq) → p.2 = Val.zero) :
    chunkReduce .npg ks fills (codes.map fun (c : Int) => (some (c : Rat) : Key)) vals (some n) sort
      = denseInter ks fills n codes vals := by
  simp only [chunkReduce, factorizeKeys_codes codes n sort hcodes, denseInter, denseCols]
  congr 1
  · simp [rangeKeys]
  · apply List.map_congr_left
    intro p hp
    obtain ⟨k, fv⟩ := p
    have hka : isArgKernel k = false := hnoarg k (List.of_mem_zip hp).1
    simp only [List.length_map, List.length_range]
    by_cases hempty : (codes.all (· == -1)) = true
    · simp only [hempty, if_true]
      apply List.ext_getElem
      · simp
      · intro g h1 h2
        have hne : ∀ c ∈ codes, c ≠ Int.ofNat g := by
          intro c hc
          have := List.all_eq_true.mp hempty c hc
          simp only [beq_iff_eq] at this
          simp only [Int.ofNat_eq_natCast]
          omega
        simp only [List.getElem_replicate, List.getElem_map, List.getElem_range]
        rw [members_eq_nil_of_ne _ codes vals hne]
        simp [blockVal]
    · simp only [hempty, Bool.false_eq_true, if_false, engineCall, hka, engGrouped]
      rw [npgGrouped_eq_blockVal k fv _ vals _ hka (hz (k, fv) hp), ← List.map_take]
      have htake : (List.range (if (codes.any (· == -1)) = true then n + 1 else n)).take n = List.range n := by
        split <;> simp [List.take_range]
      rw [htake]
      apply List.map_congr_left
      intro g hg
      rw [members_bump g n (List.mem_range.mp hg)]

/-- `chunkReduce_dense'` with hypotheses it does not need (`_hlen`, `_hk`, the `.len` case of `hz`) -/
theorem chunkReduce_dense (ks : List Kernel) (fills : List Val) (codes : List Int) (vals : List Val) (n : Nat)
    (sort : Bool)
    (_hlen : codes.length = vals.length) (_hk : ks.length = fills.length)
    (hcodes : ∀ c ∈ codes, -1 ≤ c ∧ c < (n : Int))
    (hnoarg : ∀ k ∈ ks, isArgKernel k = false)
    (hz : ∀ p ∈ ks.zip fills, (p.1 = .nanlen ∨ p.1 = .nansumsq ∨ p.1 = .len) → p.2 = Val.zero) :
    chunkReduce .npg ks fills (codes.map fun (c : Int) => (some (c : Rat) : Key)) vals (some n) sort
      = denseInter ks fills n codes vals :=
  chunkReduce_dense' ks fills codes vals n sort hcodes hnoarg
    (fun p hp h => hz p hp (h.elim Or.inl (fun h' => Or.inr (Or.inl h'))))

end Flox
