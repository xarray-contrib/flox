/-
  `Generated.initRows` is a left-nested `++` of the twenty chunks it is generated in: walking it makes every row pass
  through up to nineteen `List.append`s, in every kernel-evaluated pass.  A pass should take the table chunk by chunk.
  The number of chunks is that of the generated file (2480 rows = 31 reductions × 8 dtype kinds × 5 fills × 2, 128 to a
  chunk): a registry with more or fewer reductions changes it, and `initChunks` has to follow.
-/
import FloxModel.Generated.Initialized

namespace Flox
open Generated

def initChunks : List (List InitRow) :=
  [initRows0, initRows1, initRows2, initRows3, initRows4, initRows5, initRows6, initRows7, initRows8, initRows9,
   initRows10, initRows11, initRows12, initRows13, initRows14, initRows15, initRows16, initRows17, initRows18, initRows19]

theorem initRows_eq : initRows = initChunks.flatten := by
  unfold initRows initChunks
  simp only [List.flatten_cons, List.flatten_nil, List.append_assoc]
  rw [List.append_nil]

theorem initRows_all (p : InitRow → Bool) : initRows.all p = initChunks.all (·.all p) := by
  rw [initRows_eq, List.all_flatten]

end Flox
