/-
  C19: the hand-written decision functions equal the tables regenerated from the live code; what `_validate_reindex`,
  `_choose_method` and `_choose_engine` can answer, each by evaluation over its finite argument domain.
-/
import FloxModel.DecisionsEntry
import FloxProofs.DecisionsCore
import FloxModel.Generated.Decisions
import FloxModel.Generated.Sites

namespace Flox.Decisions

/-! The model equals the regenerated tables: a behavioural edit of the Python breaks these. -/

theorem validateReindex_eq_generated :
    ∀ r ∈ Generated.validateReindexRows,
      validateReindex r.reindex r.kind.cls r.method r.expected r.byDask r.arrDask r.isFloat = r.result := by
  decide +kernel

theorem chooseMethod_eq_generated :
    ∀ r ∈ Generated.chooseMethodRows,
      chooseMethod r.method r.preferred r.chunkNone r.naxEqNdim r.isArg = r.result := by
  decide +kernel

theorem chooseEngine_eq_generated :
    ∀ r ∈ Generated.chooseEngineRows,
      chooseEngine r.kind r.countMask r.sorted r.byDask r.dtypeGiven r.hasNumbagg = r.engine := by
  decide +kernel

/-- the tables have the sizes of the whole abstract domains (13 kinds × 3 × 4 × 2⁴ ; 4 × 3 × 2³ ; 31 names × 2⁵) -/
theorem generated_tables_complete :
    Generated.validateReindexRows.length = 13 * 3 * 4 * 16 ∧ Generated.chooseMethodRows.length = 4 * 3 * 8 ∧
    Generated.chooseEngineRows.length = 31 * 32 ∧ Generated.funcFeatures.length = 31 := by
  refine ⟨by decide +kernel, by decide +kernel, by decide +kernel, by decide +kernel⟩

def vrCheck (q : Option Bool → FuncClass → Option Method → Bool → Bool → Bool → Bool → Bool) : Bool :=
  allOptBool.all fun r => allFuncClass.all fun k => allOptMethod.all fun m => allBool.all fun e =>
  allBool.all fun b => allBool.all fun a => allBool.all fun f => q r k m e b a f

theorem vrCheck_forall {q} (h : vrCheck q = true) : ∀ r k m e b a f, q r k m e b a f = true :=
  fun r k m e b a f =>
    forall_bool (forall_bool (forall_bool (forall_bool (forall_optMethod (forall_funcClass (forall_optBool h r) k) m) e) b) a) f

/-- when `_validate_reindex` answers `reindex=True` on chunked input: not under cohorts, not for first / last (nor
    nanfirst / nanlast on non-float data), and for an arg-reduction only under an explicit blockwise plan with dask
    labels (where `reindex` resolves to `any_by_dask`) -/
theorem validateReindex_true_on_dask
    {reindex : Option Bool} {k : FuncClass} {method : Option Method} {expected byDask arrDask isFloat : Bool}
    (h : validateReindex reindex k method expected byDask arrDask isFloat = .ok (some true))
    (hdask : (arrDask || byDask) = true) :
    method ≠ some .cohorts ∧ (k.strictFirstLast || (k.isFirstLast && !isFloat)) = false ∧
      (k = .arg → (method == some .blockwise && byDask) = true) := by
  have := vrCheck_forall (q := fun r k m e b a f =>
    !decide (validateReindex r k m e b a f = .ok (some true)) || !(a || b) ||
      (decide (m ≠ some .cohorts) && !(k.strictFirstLast || (k.isFirstLast && !f)) &&
        (!decide (k = .arg) || (m == some .blockwise && b)))) (by decide +kernel)
    reindex k method expected byDask arrDask isFloat
  simp [h, hdask] at this
  grind

theorem argreduce_blockwise_dask_labels_counterexample :
    validateReindex none .arg (some .blockwise) true true true true = .ok (some true) := by decide +kernel

theorem resolveReindex_definite
    (reindex : Option Bool) (k : FuncClass) (m : Method) (expected byDask arrDask isFloat : Bool) :
    resolveReindex reindex k (some m) expected byDask arrDask isFloat ≠ none := by
  cases reindex with
  | some b => simp [resolveReindex]
  | none =>
    simp only [resolveReindex]
    repeat' split
    all_goals simp

theorem explicit_method_kept (m preferred : Method) (chunkNone naxEqNdim isArg : Bool) :
    chooseMethod (some m) preferred chunkNone naxEqNdim isArg = .ok m := rfl

theorem auto_method_arg_never_blockwise (preferred : Method) (naxEqNdim : Bool) :
    chooseMethod none preferred false naxEqNdim true ≠ .ok .blockwise := by
  cases preferred <;> cases naxEqNdim <;> decide

def qEngine (k : FuncKind) (cm s b d n : Bool) : Bool :=
  (!k.isArg || decide (chooseEngine k cm s b d n ≠ .flox)) &&
  (!k.quantileLike || decide (chooseEngine k cm s b d n = .flox)) &&
  (decide (chooseEngine k cm s b d n ≠ .numbagg) || (n && !k.isArg && (!d || k.isAnyAll))) &&
  decide (chooseEngine k cm s b d n ≠ .numba)

theorem check_engine :
    (allFuncKind.all fun k => allBool.all fun cm => allBool.all fun s => allBool.all fun b => allBool.all fun d =>
      allBool.all fun n => qEngine k cm s b d n) = true := by decide +kernel

/-- the engine flox picks can run the reduction: never its own engine for arg-reductions, always its own engine for
    quantile / median (the only one implementing them), numbagg only when importable, for a non-arg reduction and
    without a `dtype` (any / all also with one), never numba -/
theorem engine_able (k : FuncKind) (countMask sorted byDask dtypeGiven hasNumbagg : Bool) :
    (k.isArg = true → chooseEngine k countMask sorted byDask dtypeGiven hasNumbagg ≠ .flox) ∧
    (k.quantileLike = true → chooseEngine k countMask sorted byDask dtypeGiven hasNumbagg = .flox) ∧
    (chooseEngine k countMask sorted byDask dtypeGiven hasNumbagg = .numbagg →
        hasNumbagg = true ∧ k.isArg = false ∧ (dtypeGiven = false ∨ k.isAnyAll = true)) ∧
    chooseEngine k countMask sorted byDask dtypeGiven hasNumbagg ≠ .numba := by
  have h := forall_bool (forall_bool (forall_bool (forall_bool (forall_bool (forall_funcKind check_engine k) countMask) sorted) byDask) dtypeGiven) hasNumbagg
  simp only [qEngine, Bool.and_eq_true, Bool.or_eq_true, Bool.not_eq_true', decide_eq_true_eq] at h
  obtain ⟨⟨⟨h1, h2⟩, h3⟩, h4⟩ := h
  refine ⟨fun ha => ?_, fun hq => ?_, fun hn => ?_, h4⟩
  · rcases h1 with h1 | h1
    · rw [ha] at h1; exact absurd h1 (by decide)
    · exact h1
  · rcases h2 with h2 | h2
    · rw [hq] at h2; exact absurd h2 (by decide)
    · exact h2
  · rcases h3 with h3 | h3
    · exact absurd hn h3
    · obtain ⟨⟨hh, hk⟩, hd⟩ := h3
      exact ⟨hh, hk, hd⟩

theorem entryGuards_clean (k : FuncKind) (engine : Option Engine) (dtypeGiven dtypeInt qGiven byDask arrDask : Bool) :
    (entryGuards k engine dtypeGiven dtypeInt qGiven byDask arrDask).Clean :=
  Res.clean_ite Res.clean_notImplemented <| Res.clean_ite Res.clean_notImplemented <|
    Res.clean_ite Res.clean_valueError <| Res.clean_ite Res.clean_valueError <|
    Res.clean_ite Res.clean_notImplemented (Res.clean_ok _)

theorem mem_dedup (c : Int) : ∀ l : List Int, c ∈ dedup l ↔ c ∈ l
  | [] => by simp [dedup]
  | x :: xs => by
    have ih := mem_dedup c xs
    by_cases h : c = x
    · simp [dedup, h]
    · simp [dedup, List.mem_filter, ih, h]

theorem nodupB_append_of_mem_both (c : Int) : ∀ (xs ys : List Int), c ∈ xs → c ∈ ys → nodupB (xs ++ ys) = false
  | [], _, h, _ => by simp at h
  | x :: xs, ys, hx, hy => by
    by_cases h : c = x
    · subst h
      simp [nodupB, hy]
    · have hx' : c ∈ xs := by
        rcases List.mem_cons.mp hx with h' | h'
        · exact absurd h' h
        · exact h'
      simp [nodupB, nodupB_append_of_mem_both c xs ys hx' hy]

theorem blockwiseGroups_split (pre mid post : List (List Int)) (b1 b2 : List Int) :
    blockwiseGroups (pre ++ b1 :: mid ++ b2 :: post)
      = (blockwiseGroups pre ++ dedup b1) ++ (blockwiseGroups mid ++ dedup b2 ++ blockwiseGroups post) := by
  simp [blockwiseGroups, List.flatten_append, List.append_assoc]

theorem nodupB_filter_append (c : Int) (p : Int → Bool) (X Y : List Int) (hl : c ∈ X) (hr : c ∈ Y) (hp : p c = true) :
    nodupB ((X ++ Y).filter p) = false := by
  rw [List.filter_append]
  exact nodupB_append_of_mem_both c _ _ (List.mem_filter.mpr ⟨hl, hp⟩) (List.mem_filter.mpr ⟨hr, hp⟩)

/-- If a label code other than the missing-label code `-1` occurs in two different blocks, the blockwise plan is refused
    (ValueError), whatever the other blocks contain.  The blocks are those the blockwise plan ran on (after
    `rechunk_for_blockwise`). -/
theorem blockwise_spanning_refused (pre mid post : List (List Int)) (b1 b2 : List Int) (c : Int) (hc : c ≠ -1)
    (h1 : c ∈ b1) (h2 : c ∈ b2) :
    blockwiseRefused (pre ++ b1 :: mid ++ b2 :: post) = true := by
  have hl : c ∈ blockwiseGroups pre ++ dedup b1 := List.mem_append.mpr (Or.inr ((mem_dedup c b1).mpr h1))
  have hr : c ∈ blockwiseGroups mid ++ dedup b2 ++ blockwiseGroups post :=
    List.mem_append.mpr (Or.inl (List.mem_append.mpr (Or.inr ((mem_dedup c b2).mpr h2))))
  unfold blockwiseRefused
  rw [blockwiseGroups_split]
  by_cases hcount : (((blockwiseGroups pre ++ dedup b1) ++ (blockwiseGroups mid ++ dedup b2 ++ blockwiseGroups post)).filter
      (· = -1)).length > 1
  · simp only [hcount, if_true]
    rw [nodupB_filter_append c _ _ _ hl hr (by simpa using hc)]
    rfl
  · simp only [hcount, if_false]
    rw [nodupB_append_of_mem_both c _ _ hl hr]
    rfl

example : blockwiseRefused [[0, 0, 1], [1, 2]] = true ∧ blockwiseRefused [[0, 0, -1], [-1, 2], [-1]] = false ∧
    blockwiseRefused [[0, 1], [2, 2], [3]] = false := by decide +kernel

end Flox.Decisions
