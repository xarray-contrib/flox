/-
  The `cohorts` plan (`method="cohorts"`) with the simple combine, end to end, for any sound cohort structure: nothing
  is assumed about how `find_group_cohorts` built the cohorts beyond `CohortsSound`.  A cohort reindexes the blocks it
  selects to its own labels and tree-reduces them.  Its selection contains every block holding a member of one of its
  labels, in ascending order, so a label's members in the selection are its members in the whole array and the cohort
  returns the specification slots of its labels.  The cohorts are the units of `FloxProofs/Assemble.lean`.
-/
import FloxProofs.EndToEndSparse
import FloxProofs.Assemble

namespace Flox

theorem ascending_eq_filter (blks : List Nat) (n : Nat) (hs : blks.Pairwise (· < ·)) (hlt : ∀ b ∈ blks, b < n) :
    blks = (List.range n).filter (fun b => decide (b ∈ blks)) := by
  have hp2 : ((List.range n).filter (fun b => decide (b ∈ blks))).Pairwise (· < ·) :=
    List.Pairwise.filter _ List.pairwise_lt_range
  have nd1 : blks.Nodup := hs.imp (fun h e => by omega)
  have nd2 : ((List.range n).filter (fun b => decide (b ∈ blks))).Nodup := hp2.imp (fun h e => by omega)
  apply List.Perm.eq_of_pairwise (le := (· < ·)) _ hs hp2
  · rw [List.perm_ext_iff_of_nodup nd1 nd2]
    intro a
    simp only [List.mem_filter, List.mem_range, decide_eq_true_eq]
    exact ⟨fun h => ⟨hlt a h, h⟩, fun h => h.2⟩
  · intro a b _ _ h1 h2; omega

theorem flatten_select {α β} (L : List α) (d : α) (blks : List Nat) (h : α → List β)
    (hs : blks.Pairwise (· < ·)) (hlt : ∀ b ∈ blks, b < L.length)
    (hnil : ∀ b (hb : b < L.length), b ∉ blks → h L[b] = []) :
    ((blks.map fun b => L.getD b d).map h).flatten = (L.map h).flatten := by
  conv => rhs; rw [← map_getD_range L d]
  conv => lhs; rw [ascending_eq_filter blks L.length hs hlt]
  rw [List.map_map, List.map_map]
  apply Grp.flatten_map_filter
  intro b hb hP
  have hb' : b < L.length := List.mem_range.mp hb
  have : b ∉ blks := by simpa using hP
  simp only [Function.comp, List.getD_eq_getElem?_getD, List.getElem?_eq_getElem hb', Option.getD_some]
  exact hnil b hb' this

theorem forall_mem_map_getD {α} {P : α → Prop} {L : List α} {d : α} (hL : ∀ x ∈ L, P x) (hd : P d)
    (blks : List Nat) : ∀ x ∈ blks.map fun b => L.getD b d, P x := by
  intro x hx
  obtain ⟨b, _, rfl⟩ := List.mem_map.mp hx
  rw [List.getD_eq_getElem?_getD]
  cases h : L[b]? with
  | none => exact hd
  | some y => exact hL y (List.mem_of_getElem? h)

def selSegs (segs : Segs) (blks : List Nat) : Segs := blks.map fun b => segs.getD b ([], [])

theorem selSegs_aligned (segs : Segs) (blks : List Nat) (hal : Aligned segs) : Aligned (selSegs segs blks) :=
  forall_mem_map_getD hal rfl blks

theorem members_selSegs (g : Int) (segs : Segs) (blks : List Nat) (hal : Aligned segs)
    (hs : blks.Pairwise (· < ·)) (hlt : ∀ b ∈ blks, b < segs.length)
    (hcover : ∀ b (hb : b < segs.length), g ∈ segs[b].1 → b ∈ blks) :
    members g (catC (selSegs segs blks)) (catV (selSegs segs blks)) = members g (catC segs) (catV segs) := by
  rw [members_cat g _ (selSegs_aligned segs blks hal), members_cat g segs hal]
  exact flatten_select segs ([], []) blks (fun p => members g p.1 p.2) hs hlt
    (fun b hb hnb => members_eq_nil_of_ne g _ _ (fun c hc e => hnb (hcover b hb (e ▸ hc))))

/-- `cs` (per cohort: block indices w.r.t. `splitBy chunks`, labels) is sound for the data -/
structure CohortsSound (chunks : List Nat) (codes : List Int) (n : Nat) (cs : List (List Nat × List Rat)) :
    Prop where
  labels_ok : ∀ co ∈ cs, ∀ ℓ ∈ co.2, ∃ g : Nat, g < n ∧ ℓ = ((g : Nat) : Rat)
  covered : ∀ g : Nat, g < n → Int.ofNat g ∈ codes → ∃ co ∈ cs, ((g : Nat) : Rat) ∈ co.2
  blocks_ne : ∀ co ∈ cs, co.1 ≠ []
  blocks_lt : ∀ co ∈ cs, ∀ b ∈ co.1, b < chunks.length
  /-- no block twice, and the order matters for `nanfirst` / `nanlast` -/
  blocks_asc : ∀ co ∈ cs, co.1.Pairwise (· < ·)
  blocks_cover : ∀ co ∈ cs, ∀ g : Nat, ((g : Nat) : Rat) ∈ co.2 → ∀ b, b < chunks.length →
    Int.ofNat g ∈ (splitBy chunks codes).getD b [] → b ∈ co.1

theorem CohortsSound.members_nil {chunks : List Nat} {codes : List Int} {n : Nat} {cs : List (List Nat × List Rat)}
    (h : CohortsSound chunks codes n cs) (vals : List Val) (g : Nat) (hg : g < n)
    (hno : ∀ co ∈ cs, ((g : Nat) : Rat) ∉ co.2) : members (Int.ofNat g) codes vals = [] :=
  members_eq_nil_of_ne _ _ _ fun _ hc' e =>
    have ⟨co, hco, hmem⟩ := h.covered g hg (e ▸ hc')
    hno co hco hmem

/-- Requested labels that are in no cohort are filled by the final reindex of `groupby_reduce` with its `fill_value`
    argument (`c.fillArg`), not with the aggregation's user fill (`R.userFill`): the two must agree if such a label
    exists.  (They differ e.g. for `nanmax` / `nanmin` without fill, where `_initialize_aggregation` sets the user fill
    to NaN.)  When no cohort has any label, the reindex of an empty result does not raise even without a fill: then a
    fill is required. -/
def HCohortFill (c : Call) (R : Resolved) (n : Nat) (cs : List (List Nat × List Rat)) : Prop :=
  (∀ g : Nat, g < n → (∀ co ∈ cs, ((g : Nat) : Rat) ∉ co.2) → c.fillArg = R.userFill) ∧
  (cs.flatMap (·.2) = [] → 0 < n → c.fillArg ≠ none)

/-- the per-cohort computation of `runKnown … (.cohorts cs)` with the simple combine -/
def cohortOut (c : Call) (blocks : List Inter) (co : List Nat × List Rat) : Except String (List Key × List Val) :=
  finalizeResults c.R
    (simpleCombine c.R true (treeReduce (simpleCombine c.R true) c.splitEvery
      ((co.1.map fun b => blocks.getD b default).map (reindexInter c.R.interFills (co.2.map some)))))
    (some (co.2.map some)) true

theorem runKnown_cohorts (c : Call) (cs : List (List Nat × List Rat)) (floatData : Bool) (chunks : List Nat)
    (keys : List Key) (vals : List Val) (hcombine : useGroupedCombine c floatData = false) :
    runKnown c (.cohorts cs) floatData chunks keys vals
      = unitsTail c false (fun rs => rs.flatMap (·.1)) (cs.map (cohortOut c (blockStage c false chunks keys vals))) := by
  simp only [runKnown, hcombine, Bool.false_eq_true, if_false, Bool.not_false, if_true]
  unfold cohortOut unitsTail gathered
  cases c.sort <;> rfl

theorem cohort_result {s : Shape} {R : Resolved} (hs : s.Fits R) (c : Call) (hR : c.R = R) (n : Nat)
    (chunks : List Nat) (codes : List Int) (vals : List Val) (cs : List (List Nat × List Rat))
    (hlen : codes.length = vals.length) (hsum : chunks.sum = codes.length)
    (hsound : CohortsSound chunks codes n cs)
    (H_absent : ∀ co ∈ cs, ∀ g : Nat, ((g : Nat) : Rat) ∈ co.2 → HAbsent R (members (Int.ofNat g) codes vals))
    (H_minmax : HMinMax R s)
    (co : List Nat × List Rat) (hco : co ∈ cs) :
    cohortOut c ((asegsOf c.sort chunks codes vals).map (spNode R)) co
      = unitOut (fun ℓ => specSlot R s.kernel (members ℓ.num codes vals)) co.2 := by
  subst hR
  have hsegs_len : (segsOf chunks codes vals).length = chunks.length := by
    simp [segsOf, List.length_zip, splitBy_length]
  have hal := segsOf_aligned chunks codes vals hlen
  have hsub : ((co.1.map fun b => ((asegsOf c.sort chunks codes vals).map (spNode c.R)).getD b default).map
        (reindexInter c.R.interFills (co.2.map some)))
      = (selSegs (segsOf chunks codes vals) co.1).map (tNode c.R (co.2.map some)) := by
    unfold selSegs asegsOf
    rw [List.map_map, List.map_map, List.map_map]
    apply List.map_congr_left
    intro b hb
    have hb' : b < (segsOf chunks codes vals).length := by
      rw [hsegs_len]; exact hsound.blocks_lt co hco b hb
    simp only [Function.comp, List.getD_eq_getElem?_getD, List.getElem?_map,
      List.getElem?_eq_getElem hb', Option.map_some, Option.getD_some]
    exact reindexInter_spInter c.R.chunk c.R.interFills _ (blockGroups c.sort _, _) (blockGroups_covers c.sort _)
  unfold cohortOut
  rw [hsub, tree_tNodes c.R (co.2.map some) c.splitEvery hs.simpleOK _
    (by simpa [selSegs] using hsound.blocks_ne co hco) (selSegs_aligned _ _ hal)]
  simp only [tNode, spInter]
  rw [finalizeResults_fcols hs, mapM_map, mapM_congr _ (fun ℓ => specSlot c.R s.kernel (members ℓ.num codes vals)) co.2 fun ℓ hℓ => ?_]
  · unfold unitOut
    cases co.2.mapM fun ℓ => specSlot c.R s.kernel (members ℓ.num codes vals) <;> rfl
  -- every label's members in the selected blocks are its members in the whole array
  obtain ⟨g, hg, rfl⟩ := hsound.labels_ok co hco ℓ hℓ
  rw [keyMembers_nat, num_natCast_rat,
    members_selSegs (Int.ofNat g) (segsOf chunks codes vals) co.1 hal (hsound.blocks_asc co hco)
      (by intro b hb; rw [hsegs_len]; exact hsound.blocks_lt co hco b hb)
      (by
        intro b hb hmem
        rw [hsegs_len] at hb
        apply hsound.blocks_cover co hco g hℓ b hb
        have h1 : b < (splitBy chunks codes).length := by rw [splitBy_length]; exact hb
        rw [List.getD_eq_getElem?_getD, List.getElem?_eq_getElem h1]
        simpa [segsOf] using hmem),
    segsOf_catC chunks codes vals (by omega), segsOf_catV chunks codes vals (by omega)]
  exact mrSlot_eq_specSlot hs _ (H_absent co hco g hℓ) H_minmax

/-- From "every cohort returns the slots `S` of its labels" to the result of the whole run: the final reindex of
    `groupby_reduce` fills the requested labels that are in no cohort with `fill_value`. -/
theorem cohorts_assemble (c : Call) (R : Resolved) (n : Nat) (cs : List (List Nat × List Rat))
    (S : Int → Except String Val) (hn : c.ngroups = n)
    (labels_ok : ∀ co ∈ cs, ∀ ℓ ∈ co.2, ∃ g : Nat, g < n ∧ ℓ = ((g : Nat) : Rat))
    (hSerr : ∀ g e, S g = .error e → e = "ValueError")
    (hSnil : ∀ g : Nat, g < n → (∀ co ∈ cs, ((g : Nat) : Rat) ∉ co.2) → S (Int.ofNat g) = fillOrError R.userFill)
    (H_fill : HCohortFill c R n cs) :
    unitsTail c false (fun rs => rs.flatMap (·.1)) (cs.map fun co => unitOut (fun ℓ => S ℓ.num) co.2)
      = (List.range n).mapM fun (g : Nat) => S (Int.ofNat g) :=
  unitsTail_slots c false n hn cs (·.2) (fun _ ℓ => S ℓ.num) (fun g => S (Int.ofNat g))
    _ (by simp [List.flatMap_map]) (fun g => hSerr _)
    (fun co hco ℓ hℓ => Or.inl (labels_ok co hco ℓ hℓ))
    (fun co _ g _ _ => by rw [num_natCast_rat])
    (fun g hg hno => by rw [hSnil g hg hno, H_fill.1 g hg hno]; rfl)
    (fun hno h0 => H_fill.2 (List.eq_nil_iff_forall_not_mem.mpr fun ℓ hℓ => by
      obtain ⟨co, hco, hℓ⟩ := List.mem_flatMap.mp hℓ
      obtain ⟨g, hg, rfl⟩ := labels_ok co hco ℓ hℓ
      exact hno co hco g hg hℓ) h0)

/-- The `cohorts` plan with the simple combine = specification, for every sound cohort structure, every chunking and
    every `split_every`. -/
theorem cohorts_eq_spec (R : Resolved) (s : Shape) (c : Call) (n : Nat) (floatData : Bool)
    (chunks : List Nat) (codes : List Int) (vals : List Val) (cs : List (List Nat × List Rat))
    (hR : c.R = R) (heng : c.eng = .npg) (hn : c.ngroups = n) (_hknown : c.knownLabels = true)
    (hshape : R.shape? = some s) (hlen : codes.length = vals.length)
    (hsound : CohortsSound chunks codes n cs)
    (H_absent : ∀ co ∈ cs, ∀ g : Nat, ((g : Nat) : Rat) ∈ co.2 → HAbsent R (members (Int.ofNat g) codes vals))
    (H_minmax : HMinMax R s)
    (H_fill : HCohortFill c R n cs)
    (hsum : chunks.sum = codes.length)
    (hcombine : useGroupedCombine c floatData = false) :
    runKnown c (.cohorts cs) floatData chunks (codeKeys codes) vals = specResult s.kernel R codes vals n := by
  subst hR
  have hs := (c.R.shape?_eq_some_iff s).mp hshape
  rw [runKnown_cohorts c cs floatData chunks _ vals hcombine, specResult_slots hs,
    blockStage_sparse_codes c chunks codes vals heng hs.isArg hs.chunk_noarg hs.chunk_zero,
    List.map_congr_left fun co hco =>
      cohort_result hs c rfl n chunks codes vals cs hlen hsum hsound H_absent H_minmax co hco]
  exact cohorts_assemble c c.R n cs (fun g => specSlot c.R s.kernel (members g codes vals)) hn hsound.labels_ok
    (fun g e h => (optToExcept_error _ e h).1)
    (fun g hg hno => by rw [hsound.members_nil vals g hg hno, specSlot_nil]) H_fill

/-- the result does not depend on which sound cohort structure is used, nor on the chunking, `split_every`, `sort` -/
theorem cohorts_structure_irrelevant (R : Resolved) (s : Shape) (c₁ c₂ : Call) (n : Nat) (floatData : Bool)
    (chunks₁ chunks₂ : List Nat) (codes : List Int) (vals : List Val) (cs₁ cs₂ : List (List Nat × List Rat))
    (hR₁ : c₁.R = R) (heng₁ : c₁.eng = .npg) (hn₁ : c₁.ngroups = n)
    (hR₂ : c₂.R = R) (heng₂ : c₂.eng = .npg) (hn₂ : c₂.ngroups = n)
    (hshape : R.shape? = some s) (hlen : codes.length = vals.length)
    (hsound₁ : CohortsSound chunks₁ codes n cs₁) (hsound₂ : CohortsSound chunks₂ codes n cs₂)
    (H_absent₁ : ∀ co ∈ cs₁, ∀ g : Nat, ((g : Nat) : Rat) ∈ co.2 → HAbsent R (members (Int.ofNat g) codes vals))
    (H_absent₂ : ∀ co ∈ cs₂, ∀ g : Nat, ((g : Nat) : Rat) ∈ co.2 → HAbsent R (members (Int.ofNat g) codes vals))
    (H_minmax : HMinMax R s)
    (H_fill₁ : HCohortFill c₁ R n cs₁) (H_fill₂ : HCohortFill c₂ R n cs₂)
    (hsum₁ : chunks₁.sum = codes.length) (hsum₂ : chunks₂.sum = codes.length)
    (hcombine₁ : useGroupedCombine c₁ floatData = false) (hcombine₂ : useGroupedCombine c₂ floatData = false) :
    runKnown c₁ (.cohorts cs₁) floatData chunks₁ (codeKeys codes) vals
      = runKnown c₂ (.cohorts cs₂) floatData chunks₂ (codeKeys codes) vals := by
  rw [cohorts_eq_spec R s c₁ n floatData chunks₁ codes vals cs₁ hR₁ heng₁ hn₁
      (knownLabels_of_simpleCombine hcombine₁) hshape hlen hsound₁
      H_absent₁ H_minmax H_fill₁ hsum₁ hcombine₁,
    cohorts_eq_spec R s c₂ n floatData chunks₂ codes vals cs₂ hR₂ heng₂ hn₂
      (knownLabels_of_simpleCombine hcombine₂) hshape hlen hsound₂
      H_absent₂ H_minmax H_fill₂ hsum₂ hcombine₂]

theorem cohorts_eq_mapreduce_sparse (R : Resolved) (s : Shape) (c : Call) (n : Nat) (floatData : Bool)
    (chunks chunks' : List Nat) (codes : List Int) (vals : List Val) (cs : List (List Nat × List Rat))
    (hR : c.R = R) (heng : c.eng = .npg) (hn : c.ngroups = n) (hknown : c.knownLabels = true)
    (hshape : R.shape? = some s) (hcodes : CodesOK codes n) (hlen : codes.length = vals.length)
    (hsound : CohortsSound chunks codes n cs)
    (H_absent : ∀ co ∈ cs, ∀ g : Nat, ((g : Nat) : Rat) ∈ co.2 → HAbsent R (members (Int.ofNat g) codes vals))
    (H_dropped : HDropped R n codes vals)
    (H_minmax : HMinMax R s) (H_fill : HCohortFill c R n cs)
    (hsum : chunks.sum = codes.length) (hsum' : chunks'.sum = codes.length)
    (hcombine : useGroupedCombine c floatData = false) :
    runKnown c (.cohorts cs) floatData chunks (codeKeys codes) vals
      = runKnown c (.mapreduce false) floatData chunks' (codeKeys codes) vals := by
  rw [cohorts_eq_spec R s c n floatData chunks codes vals cs hR heng hn hknown hshape hlen hsound
      H_absent H_minmax H_fill hsum hcombine,
    mapreduce_sparse_eq_spec R s c n floatData chunks' codes vals hR heng hn hknown hshape hcodes hlen H_dropped
      H_minmax hsum' hcombine]

theorem runKnown_cohorts_flox (c : Call) (cs : List (List Nat × List Rat)) (floatData : Bool) (chunks : List Nat)
    (keys : List Key) (vals : List Val)
    (heng : c.eng = .flox) (harg : c.R.isArg = false)
    (hks : ∀ p ∈ c.R.chunk.zip c.R.interFills, floxAgreesAt p.1 p.2)
    (hz : ∀ p ∈ c.R.chunk.zip c.R.interFills, (p.1 = .nanlen ∨ p.1 = .nansumsq) → p.2 = Val.zero)
    (hlen : keys.length = vals.length)
    (hcombine : useGroupedCombine c floatData = false) :
    runKnown c (.cohorts cs) floatData chunks keys vals
      = runKnown c.withNpg (.cohorts cs) floatData chunks keys vals := by
  have hcombine' : useGroupedCombine c.withNpg floatData = false := hcombine
  rw [runKnown_cohorts c cs floatData chunks keys vals hcombine,
    runKnown_cohorts c.withNpg cs floatData chunks keys vals hcombine',
    blockStage_flox c false chunks keys vals heng harg hks hz hlen]
  rfl

/-- `cohorts_eq_spec` with flox's own engine -/
theorem cohorts_eq_spec_flox (R : Resolved) (s : Shape) (c : Call) (n : Nat) (floatData : Bool)
    (chunks : List Nat) (codes : List Int) (vals : List Val) (cs : List (List Nat × List Rat))
    (hR : c.R = R) (heng : c.eng = .flox) (hn : c.ngroups = n)
    (hshape : R.shape? = some s) (hlen : codes.length = vals.length)
    (hsound : CohortsSound chunks codes n cs)
    (H_absent : ∀ co ∈ cs, ∀ g : Nat, ((g : Nat) : Rat) ∈ co.2 → HAbsent R (members (Int.ofNat g) codes vals))
    (H_minmax : HMinMax R s)
    (H_fill : HCohortFill c R n cs)
    (hsum : chunks.sum = codes.length)
    (hcombine : useGroupedCombine c floatData = false) :
    runKnown c (.cohorts cs) floatData chunks (codeKeys codes) vals = specResult s.kernel R codes vals n := by
  have hs := (R.shape?_eq_some_iff s).mp hshape
  subst hR
  rw [runKnown_cohorts_flox c cs floatData chunks (codeKeys codes) vals heng hs.isArg hs.chunk_floxAgrees
    hs.chunk_zero (by rw [codeKeys_length, hlen]) hcombine]
  exact cohorts_eq_spec c.R s c.withNpg n floatData chunks codes vals cs rfl rfl hn
    (knownLabels_of_simpleCombine hcombine) hshape hlen hsound H_absent H_minmax H_fill hsum hcombine

/-- `CohortsSound` as a check that evaluates, for concrete examples -/
def cohortsSoundB (chunks : List Nat) (codes : List Int) (n : Nat) (cs : List (List Nat × List Rat)) : Bool :=
  decide (∀ co ∈ cs, ∀ ℓ ∈ co.2, ℓ.den = 1 ∧ 0 ≤ ℓ.num ∧ ℓ.num < (n : Int))
  && decide (∀ g ∈ List.range n, Int.ofNat g ∈ codes → ∃ co ∈ cs, ((g : Nat) : Rat) ∈ co.2)
  && decide (∀ co ∈ cs, co.1 ≠ [])
  && decide (∀ co ∈ cs, ∀ b ∈ co.1, b < chunks.length)
  && decide (∀ co ∈ cs, co.1.Pairwise (· < ·))
  && decide (∀ co ∈ cs, ∀ ℓ ∈ co.2, ∀ b ∈ List.range chunks.length,
      ℓ.num ∈ (splitBy chunks codes).getD b [] → b ∈ co.1)

theorem cohortsSound_of_check (chunks : List Nat) (codes : List Int) (n : Nat) (cs : List (List Nat × List Rat))
    (h : cohortsSoundB chunks codes n cs = true) : CohortsSound chunks codes n cs := by
  simp only [cohortsSoundB, Bool.and_eq_true, decide_eq_true_eq] at h
  obtain ⟨⟨⟨⟨⟨h1, h2⟩, h3⟩, h4⟩, h5⟩, h6⟩ := h
  refine ⟨?_, ?_, h3, h4, h5, ?_⟩
  · intro co hco ℓ hℓ
    obtain ⟨hd, h0, hn⟩ := h1 co hco ℓ hℓ
    refine ⟨ℓ.num.toNat, by omega, ?_⟩
    have hr : ((ℓ.num : Int) : Rat) = ℓ := Rat.ext rfl hd.symm
    have : ((ℓ.num.toNat : Nat) : Int) = ℓ.num := Int.toNat_of_nonneg h0
    rw [← Rat.intCast_natCast, this, hr]
  · intro g hg hc
    exact h2 g (List.mem_range.mpr hg) hc
  · intro co hco g hg b hb hmem
    have := h6 co hco _ hg b (List.mem_range.mpr hb)
    rw [num_natCast_rat] at this
    exact this hmem

end Flox
