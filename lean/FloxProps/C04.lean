/-
  C04 — the block / combine / finalize decomposition of each aggregation is exact; fills are neutral; a user-supplied
  `Aggregation` is executed by the same machinery and obeys the same law.
-/
import FloxProofs.Tree
import FloxProofs.Finalize
import FloxProofs.RegistryProven
import FloxProofs.UserAgg
import FloxProofs.EndToEnd
import FloxProofs.ArgReduceExamples
import FloxProofs.TableShape

namespace Flox.C04

open Flox

/-- **Decomposition of one intermediate column.**  For every built-in column (chunk kernel `k`, combine kernel `c`,
    resolved fill `f`), reducing the parts of ANY ordered split of a group's members separately (an empty part = a
    block where the group is absent ↦ the fill; an all-NaN part allowed) and merging with `c` gives the
    intermediate of the concatenation. -/
theorem decompose_column (k c : Kernel) (f : Val) (h : (k, c, f) ∈ floatColumns)
    (parts : List (List Val)) (hne : parts ≠ []) :
    combineVal c (parts.map (blockVal k f)) = blockVal k f parts.flatten :=
  combine_parts k c f h parts hne

/-- **Decompose: finalize ∘ combine over parts = the eager kernel on the concatenation** (single-column family), for a
    group with at least one member (`hne`; one non-NaN member for a NaN-skipping kernel, `hvalid`) -/
theorem decompose (k c : Kernel) (f : Val) (h : (k, c, f) ∈ floatColumns)
    (parts : List (List Val)) (hne : parts.flatten ≠ [])
    (hvalid : k.skipsNaN = true → dropNaN parts.flatten ≠ []) :
    combineVal c (parts.map (blockVal k f)) = kEval k parts.flatten := by
  have hp : parts ≠ [] := by intro e; subst e; exact hne rfl
  rw [combine_parts k c f h parts hp]
  cases hs : k.skipsNaN
  · exact blockVal_of_noskip k f _ hs hne
  · exact blockVal_of_valid k f _ (hvalid hs)

/-- **Absent / all-NaN blocks are neutral**: inserting, anywhere among the (≥ 1) other blocks, a block where the
    group is absent, or (NaN-skipping kernels) present only as NaN, does not change the merged value. -/
theorem absent_block_neutral (k c : Kernel) (f : Val) (h : (k, c, f) ∈ floatColumns)
    (p : List Val) (hp : p = [] ∨ (k.skipsNaN = true ∧ ∀ x ∈ p, x.isNaN = true))
    (l₁ l₂ : List (List Val)) (hne : l₁ ++ l₂ ≠ []) :
    combineVal c ((l₁ ++ p :: l₂).map (blockVal k f)) = combineVal c ((l₁ ++ l₂).map (blockVal k f)) :=
  Flox.absent_block_neutral k c f h p hp l₁ l₂ hne

/-- **Tree shape is irrelevant**: any two reduction trees (any bracketing / `split_every` / depth / placement of
    absent blocks) over the same ordered members give the same value -/
theorem tree_shape_irrelevant (k c : Kernel) (f : Val) (h : (k, c, f) ∈ floatColumns)
    (t₁ t₂ : PTree) (hl : t₁.leaves = t₂.leaves) : t₁.eval k c f = t₂.eval k c f :=
  PTree.eval_congr k c f h t₁ t₂ hl

example : combineVal .nanmax ([[.fin 1, .nan], [], [.nan], [.fin (-2), .fin 3]].map (blockVal .nanmax Val.ninf))
    = Val.fin 3 := by decide +kernel

/-- mean: `sum / count` of the merged (sum, count) intermediates = `np.mean` of all members, for every split -/
theorem decompose_mean (parts : List (List Val)) (hne : parts ≠ []) :
    Val.div (combineVal .sum (parts.map (blockVal .sum Val.zero)))
        (combineVal .sum (parts.map (blockVal .nanlen Val.zero)))
      = kEval .mean parts.flatten := by
  rw [combine_parts .sum .sum Val.zero (by decide +kernel) parts hne,
    combine_parts .nanlen .sum Val.zero (by decide +kernel) parts hne, mean_finalize]

theorem decompose_nanmean (parts : List (List Val)) (hne : parts ≠ []) :
    Val.div (combineVal .sum (parts.map (blockVal .nansum Val.zero)))
        (combineVal .sum (parts.map (blockVal .nanlen Val.zero)))
      = kEval .nanmean parts.flatten := by
  rw [combine_parts .nansum .sum Val.zero (by decide +kernel) parts hne,
    combine_parts .nanlen .sum Val.zero (by decide +kernel) parts hne, nanmean_finalize]

/-- var / std (the model returns the variance for both): the one-pass finalizer on the merged
    (sum of squares, sum, count) = two-pass `np.var(ddof)` of all members (exact arithmetic) -/
theorem decompose_var (ddof : Nat) (parts : List (List Val)) (hne : parts ≠ []) :
    onepass ddof (combineVal .sum (parts.map (blockVal .sumsq Val.zero)))
        (combineVal .sum (parts.map (blockVal .sum Val.zero)))
        (combineVal .sum (parts.map (blockVal .nanlen Val.zero)))
      = kEval (.var ddof) parts.flatten := by
  rw [combine_parts .sumsq .sum Val.zero (by decide +kernel) parts hne,
    combine_parts .sum .sum Val.zero (by decide +kernel) parts hne,
    combine_parts .nanlen .sum Val.zero (by decide +kernel) parts hne, var_finalize]

theorem decompose_nanvar (ddof : Nat) (parts : List (List Val)) (hne : parts ≠ []) :
    onepass ddof (combineVal .sum (parts.map (blockVal .nansumsq Val.zero)))
        (combineVal .sum (parts.map (blockVal .nansum Val.zero)))
        (combineVal .sum (parts.map (blockVal .nanlen Val.zero)))
      = kEval (.nanvar ddof) parts.flatten := by
  rw [combine_parts .nansumsq .sum Val.zero (by decide +kernel) parts hne,
    combine_parts .nansum .sum Val.zero (by decide +kernel) parts hne,
    combine_parts .nanlen .sum Val.zero (by decide +kernel) parts hne, nanvar_finalize]

example : kEval (.var 1) [Val.fin 1, .fin 2, .fin 6] = Val.fin 7 := by decide +kernel
example : onepass 1 (combineVal .sum ([[Val.fin 1], [], [.fin 2, .fin 6]].map (blockVal .sumsq Val.zero)))
    (combineVal .sum ([[Val.fin 1], [], [.fin 2, .fin 6]].map (blockVal .sum Val.zero)))
    (combineVal .sum ([[Val.fin 1], [], [.fin 2, .fin 6]].map (blockVal .nanlen Val.zero))) = Val.fin 7 := by
  decide +kernel

/-- `max` with a finite fill `f` (integer dtypes: `iinfo.min`): the column law holds when every member is ≥ `f` -/
theorem column_max_finite_fill (f : Val) (parts : List (List Val)) (hne : parts ≠ [])
    (hge : ∀ p ∈ parts, ∀ x ∈ p, Val.max f x = x) :
    combineVal .max (parts.map (blockVal .max f)) = blockVal .max f parts.flatten :=
  maxExt.law f parts hne hge

theorem column_min_finite_fill (f : Val) (parts : List (List Val)) (hne : parts ≠ [])
    (hle : ∀ p ∈ parts, ∀ x ∈ p, Val.min f x = x) :
    combineVal .min (parts.map (blockVal .min f)) = blockVal .min f parts.flatten :=
  minExt.law f parts hne hle

theorem column_nanmax_finite_fill (f : Val) (hf : f.isNaN = false) (parts : List (List Val)) (hne : parts ≠ [])
    (hge : ∀ p ∈ parts, ∀ x ∈ p, x.isNaN = false → Val.max f x = x) :
    combineVal .nanmax (parts.map (blockVal .nanmax f)) = blockVal .nanmax f parts.flatten :=
  nanmaxExt.law f parts hne fun p hp x hx hn => by simpa [skipNaN, hf, hn] using hge p hp x hx hn

theorem column_nanmin_finite_fill (f : Val) (hf : f.isNaN = false) (parts : List (List Val)) (hne : parts ≠ [])
    (hle : ∀ p ∈ parts, ∀ x ∈ p, x.isNaN = false → Val.min f x = x) :
    combineVal .nanmin (parts.map (blockVal .nanmin f)) = blockVal .nanmin f parts.flatten :=
  nanminExt.law f parts hne fun p hp x hx hn => by simpa [skipNaN, hf, hn] using hle p hp x hx hn

/-- signed `bits`-bit integer data satisfy the hypotheses for the dtype-extreme fills … -/
theorem intN_data_bounded (bits : Nat) (x : Val) (h : IsIntN bits x) :
    Val.max (intMin bits) x = x ∧ Val.min (intMax bits) x = x ∧ x.isNaN = false :=
  ⟨intN_ge_min bits x h, intN_le_max bits x h, intN_not_nan bits x h⟩

/-- … hence for int64 data with the int64 fills (−2^63 / 2^63−1) all four column laws hold -/
theorem column_max_int64 (parts : List (List Val)) (hne : parts ≠ []) (hint : ∀ p ∈ parts, ∀ x ∈ p, IsIntN 64 x) :
    combineVal .max (parts.map (blockVal .max (intMin 64))) = blockVal .max (intMin 64) parts.flatten
    ∧ combineVal .nanmax (parts.map (blockVal .nanmax (intMin 64))) = blockVal .nanmax (intMin 64) parts.flatten
    ∧ combineVal .min (parts.map (blockVal .min (intMax 64))) = blockVal .min (intMax 64) parts.flatten
    ∧ combineVal .nanmin (parts.map (blockVal .nanmin (intMax 64))) = blockVal .nanmin (intMax 64) parts.flatten :=
  ⟨column_max_finite_fill _ parts hne (fun p hp x hx => intN_ge_min 64 x (hint p hp x hx)),
   column_nanmax_finite_fill _ rfl parts hne (fun p hp x hx _ => intN_ge_min 64 x (hint p hp x hx)),
   column_min_finite_fill _ parts hne (fun p hp x hx => intN_le_max 64 x (hint p hp x hx)),
   column_nanmin_finite_fill _ rfl parts hne (fun p hp x hx _ => intN_le_max 64 x (hint p hp x hx))⟩

/-- any bound below the dtype range works too (e.g. int8 data with an int64 intermediate) -/
theorem int_fill_below (m lo : Int) (x : Int) (hm : m ≤ lo) (hx : lo ≤ x) :
    Val.max (Val.ofInt m) (Val.ofInt x) = Val.ofInt x :=
  max_fin_of_le _ _ (by exact_mod_cast (Int.le_trans hm hx))

theorem int_fill_above (m hi : Int) (x : Int) (hm : hi ≤ m) (hx : x ≤ hi) :
    Val.min (Val.ofInt m) (Val.ofInt x) = Val.ofInt x :=
  min_fin_of_ge _ _ (by exact_mod_cast (Int.le_trans hx hm))

-- non-vacuity: int64 extremes among the data, one absent block
example : combineVal .max ([[Val.ofInt (-9223372036854775808)], [], [Val.ofInt (-5)]].map (blockVal .max (intMin 64)))
    = Val.ofInt (-5) := by decide +kernel
example : IsIntN 64 (Val.ofInt (-9223372036854775808)) := ⟨_, rfl, by decide, by decide⟩

/-- the value column of `nanargmax` / `nanargmin` (chunk and combine `nanmax` / `nanmin`, fill NaN – not one of
    `floatColumns`): blocks where the group is absent or all-NaN contribute NaN, which the combine skips -/
theorem column_nanarg_value (parts : List (List Val)) :
    combineVal .nanmax (parts.map (blockVal .nanmax Val.nan)) = blockVal .nanmax Val.nan parts.flatten
    ∧ combineVal .nanmin (parts.map (blockVal .nanmin Val.nan)) = blockVal .nanmin Val.nan parts.flatten :=
  ⟨nanmaxExt.law_nan parts, nanminExt.law_nan parts⟩

example : combineVal .nanmax ([[Val.nan], [], [.ninf, .nan], [.fin 2]].map (blockVal .nanmax Val.nan)) = .fin 2 := by
  decide +kernel
example : combineVal .nanmax ([[Val.nan], [], [.ninf, .nan]].map (blockVal .nanmax Val.nan)) = .ninf := by
  decide +kernel

/-- the hypothesis "data ≥ fill" is necessary: 0 is neutral for `max` only on non-negative data
    (chunk "max" / combine "max" / fill 0 — the kind of blueprint a positive-data test suite cannot reject) -/
theorem fill_not_neutral_counterexample :
    combineVal .max ([[Val.fin (-2)], []].map (blockVal .max (Val.fin 0))) = Val.fin 0
    ∧ blockVal .max (Val.fin 0) [[Val.fin (-2)], []].flatten = Val.fin (-2) := by decide +kernel

/-- **Every built-in blueprint is a proven one.**  For each entry of the live `AGGREGATIONS` (regenerated table):
    if it has a chunk function its declarative core (numpy / chunk / combine / intermediate fills / finalize /
    reduction type) is literally that of its family in `provenBlueprints` (`AggFamily.core`) and the family is
    well-formed (`AggFamily.wf`: the column of a single-column family, with the fill resolved for floating dtypes, is in
    `floatColumns`; for the mean / var / arg families, whose columns and finalizer `AggFamily.core` fixes, the key names
    the family); otherwise it is blockwise-only (no combine, no finalizer). -/
theorem registry_proven : ∀ b ∈ Generated.registry, blueprintProven b = true :=
  List.all_eq_true.mp registry_all_proven

/-- **`_initialize_aggregation` resolves the fills as the proofs assume** (float64 / float32, all 20 rows of the table
    per blueprint): same chunk / combine kernels (+ the count column `nanlen` / `sum` / 0 when `min_count > 0`),
    `NINF ↦ -inf`, `INF ↦ inf`, `NA ↦ nan`, `simple_combine` = the functions named by `combine`, same finalizer. -/
theorem registry_float_fills_resolved :
    ∀ b ∈ Generated.registry, hasChunk b = true → floatRowsProven b = true ∧ floatRowsCount b = 20 := by
  intro b hb hc
  have h := List.all_eq_true.mp (Bool.and_eq_true_iff.mp registry_tables_check).2 b (List.mem_filter.mpr ⟨hb, hc⟩)
  obtain ⟨hlen, hall⟩ := Bool.and_eq_true_iff.mp h
  rw [floatRowsProven, floatRowsCount, ← List.all_filter, filter_blueprint_rows]
  exact ⟨hall, by simpa using hlen⟩

/-- **Integer dtypes**: in every row of the table for `max` / `nanmax` (`min` / `nanmin`) on an integer array dtype,
    the resolved intermediate fill is −inf or an integer ≤ the least value of the array dtype (resp. +inf / ≥ the
    greatest).  That is the hypothesis of `column_max_finite_fill` read off the TEXT of the table (`intRowBounded`
    compares the fill literal with the range of the dtype kind); no theorem links it to `resolve` / `Val`. -/
theorem registry_int_fills_bound : ∀ r ∈ Generated.initRows, r.ok = true →
    (r.func ∈ maxFamily ∨ r.func ∈ minFamily) → intRowBounded r = true := by
  intro r hr hok hf
  have h : intRowOk r = true := by
    have hall := (Bool.and_eq_true_iff.mp registry_tables_check).1
    rw [← initRows_all] at hall
    exact List.all_eq_true.mp hall r hr
  have hsel : (r.ok && (maxFamily.contains r.func || minFamily.contains r.func)) = true := by
    rcases hf with hf | hf <;> simp [hok, hf]
  cases r
  simp only [intRowOk] at h
  rw [hsel] at h
  simpa using h

/-- every proven family comes with its law -/
def AggFamilyLaw : AggFamily → Prop
  | .column k c fs => ∃ v, floatFill fs = some v ∧ Law k c v
  | .mean nan =>
    Law (if nan then .nansum else .sum) .sum Val.zero ∧ Law .nanlen .sum Val.zero ∧
      ∀ ms, Val.div (blockVal (if nan then .nansum else .sum) Val.zero ms) (blockVal .nanlen Val.zero ms)
        = kEval (if nan then .nanmean else .mean) ms
  | .var nan _ =>
    Law (if nan then .nansumsq else .sumsq) .sum Val.zero ∧ Law (if nan then .nansum else .sum) .sum Val.zero ∧
      Law .nanlen .sum Val.zero ∧
      ∀ ddof ms, onepass ddof (blockVal (if nan then .nansumsq else .sumsq) Val.zero ms)
          (blockVal (if nan then .nansum else .sum) Val.zero ms) (blockVal .nanlen Val.zero ms)
        = kEval (if nan then .nanvar ddof else .var ddof) ms
  | .arg k =>
    -- the value column (the group's extreme; NaN fill for the NaN-skipping ones) decomposes; the law of the index
    -- column given the value column ("first extreme wins", the (value, index) pair law) is the subject of C06
    ∃ v, floatFill (argValueFill k) = some v ∧ Law (argValueKernel k) (argValueKernel k) v

theorem proven_families_lawful : ∀ p ∈ provenBlueprints, p.2.wf p.1 = true → AggFamilyLaw p.2 := by
  intro p _ hwf
  obtain ⟨key, fam⟩ := p
  cases fam with
  | column k c fs =>
    simp only [AggFamily.wf, Bool.and_eq_true] at hwf
    cases hv : floatFill fs with
    | none => simp [hv] at hwf
    | some v =>
      simp only [hv, decide_eq_true_eq] at hwf
      exact ⟨v, hv, column_law hwf.1⟩
  | mean nan =>
    cases nan
    · exact ⟨column_law (by decide +kernel), column_law (by decide +kernel), mean_finalize⟩
    · exact ⟨column_law (by decide +kernel), column_law (by decide +kernel), nanmean_finalize⟩
  | var nan std =>
    cases nan
    · exact ⟨column_law (by decide +kernel), column_law (by decide +kernel), column_law (by decide +kernel),
        var_finalize⟩
    · exact ⟨column_law (by decide +kernel), column_law (by decide +kernel), column_law (by decide +kernel),
        nanvar_finalize⟩
  | arg k =>
    simp only [AggFamily.wf, Bool.and_eq_true, Bool.or_eq_true, beq_iff_eq] at hwf
    rcases hwf.1 with ((rfl | rfl) | rfl) | rfl
    · exact ⟨Val.ninf, rfl, column_law (by decide +kernel)⟩
    · exact ⟨Val.pinf, rfl, column_law (by decide +kernel)⟩
    · exact ⟨Val.nan, rfl, fun parts _ => (column_nanarg_value parts).1⟩
    · exact ⟨Val.nan, rfl, fun parts _ => (column_nanarg_value parts).2⟩

-- non-vacuity: the table is not empty and contains what one expects
example : (Generated.registry.filter hasChunk).length = 23 := registry_counts.1
example : provenBlueprints.lookup "nanvar" = some (.var true false) := by decide +kernel
example : ∃ b ∈ Generated.registry, b.key = "mean" ∧ b.combine = ["sum", "sum"] ∧ b.finalize = "_mean_finalize" := by
  decide +kernel
-- an edited blueprint is rejected: combine "sum" → "max", fill 0 → 1, `_var_finalize` → `_mean_finalize`
def editedCombine : RegistryRow :=
  { key := "sum", name := "sum", numpy := ["sum"], chunk := ["sum"], combine := ["max"], fills := ["0"],
    finalFill := "NA", interDtypes := ["None"], finalDtype := "None", finalize := "None", preprocess := "None",
    reductionType := "reduce", preservesDtype := false, newDims := "returns_empty_tuple" }
def editedFill : RegistryRow := { editedCombine with combine := ["sum"], fills := ["1"] }
def editedFinalizer : RegistryRow :=
  { key := "var", name := "var", numpy := ["var"], chunk := ["sum_of_squares", "sum", "nanlen"],
    combine := ["sum", "sum", "sum"], fills := ["0", "0", "0"], finalFill := "nan",
    interDtypes := ["None", "None", "int64"], finalDtype := "floating", finalize := "_mean_finalize",
    preprocess := "None", reductionType := "reduce", preservesDtype := false, newDims := "returns_empty_tuple" }
example : blueprintProven editedCombine = false ∧ blueprintProven editedFill = false
    ∧ blueprintProven editedFinalizer = false
    ∧ blueprintProven { editedFill with fills := ["0"] } = true := by decide +kernel

/-- **Same machinery.**  For a resolved blueprint whose columns need obey NO law (any chunk kernels but the arg-kernels,
    any combine kernels, any fills; as many combine kernels and fills as chunk kernels; fill 0 for a `nanlen` /
    `nansum_of_squares` column, `LenFillsZero`), the numpy_groupies engine and any chunking / `split_every`, the
    map-reduce plan with `_simple_combine` stores in column `j`, slot `g`, the tree fold (with the user's combine kernel
    `j`) of the per-block values `blockVal chunk[j] fill[j] (members of g in the block)`; `groupby_reduce` then applies
    `_finalize_results` to it (`userAggregation_runKnown`). -/
theorem userAggregation_machinery (c : Call) (n : Nat) (chunks : List Nat) (codes : List Int) (vals : List Val)
    (se : Nat) (heng : c.eng = .npg) (hn : c.ngroups = n) (harg : c.R.isArg = false)
    (hc : c.R.chunk.length = c.R.combine.length) (hf : c.R.chunk.length = c.R.interFills.length)
    (hnoarg : ∀ k ∈ c.R.chunk, isArgKernel k = false) (hz : LenFillsZero c.R)
    (hchunks : chunks ≠ []) (hsum : chunks.sum = codes.length)
    (hcodes : ∀ c ∈ codes, -1 ≤ c ∧ c < (n : Int)) :
    simpleCombine c.R true (treeReduce (simpleCombine c.R true) se
        (blockStage c true chunks (codes.map fun (i : Int) => (some (i : Rat) : Key)) vals))
      = { groups := rangeKeys n,
          cols := c.R.combine.mapIdx fun j cmb =>
            (List.range n).map fun gi =>
              machineryVal cmb se ((segsOf chunks codes vals).map fun p =>
                blockVal (c.R.chunk.getD j .sum) (c.R.interFills.getD j Val.nan) (members (Int.ofNat gi) p.1 p.2)) } :=
  Flox.userAggregation_machinery c n chunks codes vals se heng hn harg hc hf hnoarg hz hchunks hsum hcodes

theorem userAggregation_runKnown (c : Call) (floatData : Bool) (chunks : List Nat) (keys : List Key) (vals : List Val)
    (h : useGroupedCombine c floatData = false) :
    runKnown c (.mapreduce true) floatData chunks keys vals
      = (match finalizeResults c.R
            (simpleCombine c.R true (treeReduce (simpleCombine c.R true) c.splitEvery
              (blockStage c true chunks keys vals))) (some (rangeKeys c.ngroups)) true with
          | .error e => .error e
          | .ok (gs, vs) => finalReindex c false gs vs) := by
  rw [runKnown_mapreduce c true _ _ _ _ h]
  rfl

/-- built-in aggregations enter the same function after the table lookup -/
theorem builtin_uses_runResolved (rows : List InitRow) (rq : Request) (plan : Plan) (chunks : List Nat)
    (labels : List Key) (vals : List Val) :
    run rows rq plan chunks labels vals
      = (match findInit rows rq.func rq.dkind (fillKindOf (effective rq).2) ((effective rq).1 > 0) with
          | none => .unsupported "no-init-row"
          | some row =>
            if !row.ok then .err row.err else
            match row.resolve (effective rq).2 (effective rq).1 rq.ddof with
            | none => .unsupported "unresolved-row"
            | some R => runResolved R rq (effective rq).2 plan chunks labels vals) := by
  unfold run runResolved
  rfl

/-- **Lawful user aggregations obey the same law.**  If each column of the user's blueprint satisfies the column
    law (`Law`; e.g. a clone of built-in columns under a new name: `column_law`), then for every chunking and every
    `split_every` the combined intermediates are those of the whole array as a single block. -/
theorem userAggregation_lawful (c : Call) (n : Nat) (chunks : List Nat) (codes : List Int) (vals : List Val)
    (se : Nat) (sort : Bool) (heng : c.eng = .npg) (hn : c.ngroups = n) (harg : c.R.isArg = false)
    (hc : c.R.chunk.length = c.R.combine.length) (hf : c.R.chunk.length = c.R.interFills.length)
    (hlaw : ∀ j (hj : j < c.R.chunk.length),
      Law c.R.chunk[j] (c.R.combine[j]'(by omega)) (c.R.interFills[j]'(by omega)))
    (hnoarg : ∀ k ∈ c.R.chunk, isArgKernel k = false) (hz : LenFillsZero c.R)
    (hchunks : chunks ≠ []) (hsum : chunks.sum = codes.length) (hlen : codes.length = vals.length)
    (hcodes : ∀ c ∈ codes, -1 ≤ c ∧ c < (n : Int)) :
    simpleCombine c.R true (treeReduce (simpleCombine c.R true) se
        (blockStage c true chunks (codes.map fun (i : Int) => (some (i : Rat) : Key)) vals))
      = chunkReduce .npg c.R.chunk c.R.interFills (codes.map fun (i : Int) => (some (i : Rat) : Key)) vals
          (some n) sort :=
  Flox.userAggregation_lawful c n chunks codes vals se sort heng hn harg hc hf hlaw hnoarg hz hchunks hsum hlen hcodes

/-- the scalar core of it: under a column law the tree fold `machineryVal` is the block value of the concatenation -/
theorem machinery_collapses_under_law (k c : Kernel) (f : Val) (hlaw : Law k c f) (se : Nat)
    (parts : List (List Val)) (hne : parts ≠ []) :
    machineryVal c se (parts.map (blockVal k f)) = blockVal k f parts.flatten := by
  have hl : ∀ ps : List (Val × List Val), ps ≠ [] →
      combineVal c (ps.map fun p => blockVal k f p.2) = blockVal k f (ps.map (·.2)).flatten := by
    intro ps hps
    simpa only [List.map_map, Function.comp_def] using hlaw (ps.map (·.2)) (by simpa using hps)
  obtain ⟨qs, h1, h2, h3, h4⟩ := rounds_inv (fun v p => v = blockVal k f p) List.flatten (combineVal c)
    (fun L => List.flatten_flatten.symm)
    (fun ps hps h => by rw [List.map_congr_left (fun p hp => h p hp)]; exact hl ps hps)
    (Nat.max se 2) (List.range (ceilLog (Nat.max se 2) (parts.map (blockVal k f)).length - 1))
    (parts.map fun p => (blockVal k f p, p)) (by simpa using hne)
    (by intro q hq; obtain ⟨p, _, rfl⟩ := List.mem_map.mp hq; rfl)
  simp only [List.map_map, Function.comp_def, List.map_id'] at h3 h4
  rw [machineryVal, treeVals, h4, ← h3, List.map_congr_left (fun q hq => h2 q hq)]
  exact hl qs h1

/-- **… and equals the eager result** when the blueprint has the shape of a built-in family under ANY name
    (`R.shape? = some s` does not look at `R.name`): chunked = eager, including the `ValueError` outcome.
    Hypotheses as in C02 (`H_absent`, `H_allnan`, `H_minmax`: what `_initialize_aggregation` grants the built-in
    `nanmax` / `nanmin` by name and a user clone has to request through `min_count`). -/
theorem userAggregation_lawful_eq_eager (R : Resolved) (s : Shape) (c : Call) (n : Nat) (floatData : Bool)
    (chunks chunks' : List Nat) (codes : List Int) (vals : List Val)
    (hR : c.R = R) (heng : c.eng = .npg) (hn : c.ngroups = n) (hknown : c.knownLabels = true)
    (hshape : R.shape? = some s)
    (hcodes : ∀ c ∈ codes, -1 ≤ c ∧ c < (n : Int)) (hlen : codes.length = vals.length)
    (H_absent : ∀ g : Nat, g < n → R.minCount ≥ 1 ∨ members (Int.ofNat g) codes vals ≠ [])
    (H_allnan : s.needsNaNFill = true → R.minCount ≥ 1 ∨ R.npFill = Val.nan)
    (H_minmax : s.isNanMinMax = true → R.minCount ≥ 1)
    (hchunks : chunks ≠ []) (hsum : chunks.sum = codes.length)
    (hcombine : useGroupedCombine c floatData = false) :
    runKnown c (.mapreduce true) floatData chunks (codes.map fun (i : Int) => (some (i : Rat) : Key)) vals
      = runKnown c .eager floatData chunks' (codes.map fun (i : Int) => (some (i : Rat) : Key)) vals :=
  Flox.mapreduce_dense_eq_eager R s c n floatData chunks chunks' codes vals hR heng hn hknown hshape hcodes hlen
    H_absent H_allnan H_minmax hchunks hsum hcombine

/-- a lawful user aggregation: a clone of `nanmean` under a new name (resolved fields) -/
def myMean : Resolved :=
  { name := "my_nanmean", numpy := [.nanmean], chunk := [.nansum, .nanlen], combine := [.sum, .sum],
    interFills := [Val.zero, Val.zero], numpyFills := [Val.nan], finalFill := some Val.nan, userFill := none,
    minCount := 0, finalize := "mean", ddof := 0, isArg := false }

/-- an unlawful one: chunk "max", combine "sum" -/
def maxSum : Resolved :=
  { name := "max_then_sum", numpy := [.max], chunk := [.max], combine := [.sum], interFills := [Val.zero],
    numpyFills := [Val.nan], finalFill := some Val.nan, userFill := none, minCount := 0, finalize := "none", ddof := 0,
    isArg := false }

def exRq : Request :=
  { func := "user", dkind := "-", fill := none, minCount := none, ddof := 0, eng := .npg, sort := true,
    expected := none, known := true, splitEvery := 2, floatData := true }

def exLabels : List Key := [some 0, some 1, some 0, some 1, some 0, some 1]
def exVals : List Val := [.fin 1, .fin 5, .fin 3, .fin 5, .nan, .fin 5]

def okIs (o : Outcome) (gs : List Key) (vs : List Val) : Bool :=
  match o with
  | .ok g v => decide (g = gs) && decide (v = vs)
  | _ => false

-- the clone: chunked (3 blocks, binary tree) = eager = 2 (nanmean of 1, 3, NaN)
example : okIs (runResolved myMean exRq none (.mapreduce true) [2, 2, 2] exLabels exVals)
    [some 0, some 1] [.fin 2, .fin 5] = true := by decide +kernel
example : okIs (runResolved myMean exRq none .eager [] exLabels exVals) [some 0, some 1] [.fin 2, .fin 5] = true := by
  decide +kernel

/-- without the law the chunked result of a user aggregation depends on the chunking: the machinery faithfully sums
    the block maxima (1 + 3 + 2 = 6 ≠ max = 3) -/
theorem unlawful_userAggregation_counterexample :
    okIs (runResolved maxSum exRq none (.mapreduce true) [2, 2, 2] exLabels
        [.fin 1, .fin 5, .fin 3, .fin 5, .fin 2, .fin 5]) [some 0, some 1] [.fin 6, .fin 15] = true
    ∧ okIs (runResolved maxSum exRq none (.mapreduce true) [6] exLabels
        [.fin 1, .fin 5, .fin 3, .fin 5, .fin 2, .fin 5]) [some 0, some 1] [.fin 3, .fin 5] = true := by
  decide +kernel

-- `machineryVal` on concrete per-block values: 5 blocks, split_every 2 → a tree of depth 3
example : machineryVal .sum 2 [.fin 1, .fin 2, .fin 3, .fin 4, .fin 5] = .fin 15 := by decide +kernel
example : treeVals .sum 2 [.fin 1, .fin 2, .fin 3, .fin 4, .fin 5] = [.fin 10, .fin 5] := by decide +kernel


/-- = `decompose_column`.  `parts ≠ []` is necessary for `nanmax` / `nanmin` only (NumPy's `nanmax` of nothing is NaN,
    the fill is `-inf`); see the `example` at the end. -/
theorem combine_parts (k c : Kernel) (f : Val) (h : (k, c, f) ∈ floatColumns)
    (parts : List (List Val)) (hne : parts ≠ []) :
    combineVal c (parts.map (blockVal k f)) = blockVal k f parts.flatten :=
  decompose_column k c f h parts hne

/-- the order-sensitive columns, spelled out: `nanfirst` / `nanlast` of the per-block `nanfirst` / `nanlast` values, in
    block order, is the first / last non-NaN member of the whole group (no commutativity is used – none holds) -/
theorem combine_nanfirst (parts : List (List Val)) :
    combineVal .nanfirst (parts.map (blockVal .nanfirst Val.nan)) = blockVal .nanfirst Val.nan parts.flatten :=
  Flox.combine_nanfirst parts

theorem combine_nanlast (parts : List (List Val)) :
    combineVal .nanlast (parts.map (blockVal .nanlast Val.nan)) = blockVal .nanlast Val.nan parts.flatten :=
  Flox.combine_nanlast parts

/-- = `absent_block_neutral`.  `l₁ ++ l₂ ≠ []` (there is at least one other block) is necessary for `nanmax` /
    `nanmin`, see the `example` at the end. -/
theorem absent_block_neutral_anywhere (k c : Kernel) (f : Val) (h : (k, c, f) ∈ floatColumns)
    (p : List Val) (hp : p = [] ∨ (k.skipsNaN = true ∧ ∀ x ∈ p, x.isNaN = true))
    (l₁ l₂ : List (List Val)) (hne : l₁ ++ l₂ ≠ []) :
    combineVal c ((l₁ ++ p :: l₂).map (blockVal k f)) = combineVal c ((l₁ ++ l₂).map (blockVal k f)) :=
  absent_block_neutral k c f h p hp l₁ l₂ hne

/-- an all-NaN block is interchangeable with an absent block (no side condition on the other blocks): the chunk
    stage stores the same intermediate for both -/
theorem allNaN_block_eq_absent (k c : Kernel) (f : Val) (h : (k, c, f) ∈ floatColumns)
    (hs : k.skipsNaN = true) (p : List Val) (hp : ∀ x ∈ p, x.isNaN = true)
    (l₁ l₂ : List (List Val)) :
    combineVal c ((l₁ ++ p :: l₂).map (blockVal k f)) = combineVal c ((l₁ ++ [] :: l₂).map (blockVal k f)) :=
  Flox.allNaN_block_eq_absent k c f h hs p hp l₁ l₂

/-- the same, phrased on the result: the combined value only depends on the concatenated members of the other
    blocks -/
theorem absent_block_neutral_value (k c : Kernel) (f : Val) (h : (k, c, f) ∈ floatColumns)
    (p : List Val) (hp : p = [] ∨ (k.skipsNaN = true ∧ ∀ x ∈ p, x.isNaN = true))
    (l₁ l₂ : List (List Val)) (hne : l₁ ++ l₂ ≠ []) :
    combineVal c ((l₁ ++ p :: l₂).map (blockVal k f)) = blockVal k f (l₁ ++ l₂).flatten :=
  (Flox.absent_block_neutral k c f h p hp l₁ l₂ hne).trans (Flox.combine_parts k c f h _ hne)

/-- `mean`: stored `sum` / stored count = `np.mean` -/
theorem mean_finalize (ms : List Val) :
    Val.div (blockVal .sum Val.zero ms) (blockVal .nanlen Val.zero ms) = kEval .mean ms :=
  Flox.mean_finalize ms

/-- `nanmean`: stored `nansum` / stored count = `np.nanmean` -/
theorem nanmean_finalize (ms : List Val) :
    Val.div (blockVal .nansum Val.zero ms) (blockVal .nanlen Val.zero ms) = kEval .nanmean ms :=
  Flox.nanmean_finalize ms

/-- `var` / `std`: the one-pass formula on the stored (sum of squares, sum, count) = two-pass `np.var(ddof)`, NaN when
    `count ≤ ddof`.  (The model returns the variance for `std` as well; the square root is outside exact arithmetic.) -/
theorem var_finalize (ddof : Nat) (ms : List Val) :
    onepass ddof (blockVal .sumsq Val.zero ms) (blockVal .sum Val.zero ms) (blockVal .nanlen Val.zero ms)
      = kEval (.var ddof) ms :=
  Flox.var_finalize ddof ms

theorem nanvar_finalize (ddof : Nat) (ms : List Val) :
    onepass ddof (blockVal .nansumsq Val.zero ms) (blockVal .nansum Val.zero ms) (blockVal .nanlen Val.zero ms)
      = kEval (.nanvar ddof) ms :=
  Flox.nanvar_finalize ddof ms

/-- = `decompose_var` -/
theorem var_split_combine_finalize (ddof : Nat) (parts : List (List Val)) (hne : parts ≠ []) :
    onepass ddof (combineVal .sum (parts.map (blockVal .sumsq Val.zero)))
        (combineVal .sum (parts.map (blockVal .sum Val.zero)))
        (combineVal .sum (parts.map (blockVal .nanlen Val.zero)))
      = kEval (.var ddof) parts.flatten :=
  decompose_var ddof parts hne

/-- = `decompose_nanmean` -/
theorem nanmean_split_combine_finalize (parts : List (List Val)) (hne : parts ≠ []) :
    Val.div (combineVal .sum (parts.map (blockVal .nansum Val.zero)))
        (combineVal .sum (parts.map (blockVal .nanlen Val.zero)))
      = kEval .nanmean parts.flatten :=
  decompose_nanmean parts hne

/-! The pair law of the arg-reductions.

  The chunk stage stores, per block and label, `Grp.blockPair k junk ps` = (extreme value of the label's members in the
  block, GLOBAL index of its first occurrence), where `ps : List (Val × Val)` are the (value, global index) pairs of
  the members and `junk` is whatever index the engine reports when no member is left after dropping NaN.
  `_grouped_combine` computes `Grp.combinePair k junk qs` = (max, argmax) resp. (min, argmin) over the stacked
  per-block pairs `qs`, in block order. -/

/-- **Pair law, `argmax` / `argmin`** – no hypothesis on the data (NaN members included: NumPy's `argmax` treats NaN as
    the greatest element): combining the per-block pairs gives the pair of the concatenated members, i.e. (extreme
    over all, smallest global index attaining it).  `hall`: the label occurs in every listed block. -/
theorem pairLaw_arg (k : Kernel) (hk : k = .argmax ∨ k = .argmin) (junkB : List Grp.VI → Val) (junkC junk : Val)
    (pss : List (List Grp.VI)) (hne : pss ≠ []) (hall : ∀ ps ∈ pss, ps ≠ []) :
    Grp.combinePair k junkC (pss.map fun ps => Grp.blockPair k (junkB ps) ps) = Grp.blockPair k junk pss.flatten :=
  Grp.pairLaw_arg k hk junkB junkC junk pss hne hall

/-- **Pair law, `nanargmax` / `nanargmin`** for the blueprint (chunk `(nanmax, nanargmax)`, combine `(max, argmax)`,
    value fill `∓inf`).  A block in which all members of the label are NaN contributes the junk pair (`∓inf`, `junkB`).
    Narrower than the property: `Grp.HArgFill k vs` – the label has a non-NaN member different from `∓inf`.  Without
    it the law FAILS: `pairLaw_nanarg_counterexample` (the junk pair of an all-NaN block ties with a genuine `-inf`
    and wins by position).  The library was repaired after this finding (/repo 41daa06): from that commit on the
    registry's combine for `nanargmax` / `nanargmin` is `(nanmax, nanargmax)` with a NaN value fill
    (`column_nanarg_value`), so all-NaN blocks never win.  This theorem is about the blueprint before that commit
    (`Grp.AEx.Rnanargmax`), not about the one the registry tie checks. -/
theorem pairLaw_nanarg (k : Kernel) (hk : k = .nanargmax ∨ k = .nanargmin) (junkB : List Grp.VI → Val)
    (junkC junk : Val) (pss : List (List Grp.VI)) (hne : pss ≠ [])
    (H_argfill : Grp.HArgFill k (pss.flatten.map (·.1))) :
    Grp.combinePair k junkC (pss.map fun ps => Grp.blockPair k (junkB ps) ps) = Grp.blockPair k junk pss.flatten :=
  Grp.pairLaw_nanarg k hk junkB junkC junk pss hne H_argfill

/-- `HArgFill` is necessary: the label is all-NaN in the first block (junk pair `(-inf, 0)`) and its only valid member
    is a genuine `-inf` at index 3: (max, argmax) keeps the junk index 0 -/
theorem pairLaw_nanarg_counterexample :
    let pss : List (List Grp.VI) := [[(.nan, .fin 0), (.nan, .fin 1)], [(.nan, .fin 2), (.ninf, .fin 3)]]
    ¬ Grp.HArgFill .nanargmax (pss.flatten.map (·.1))
    ∧ Grp.combinePair .nanargmax (.fin 99)
        (pss.map fun ps => Grp.blockPair .nanargmax ((ps.headD (.nan, .nan)).2) ps) = (.ninf, .fin 0)
    ∧ Grp.blockPair .nanargmax (.fin 55) pss.flatten = (.ninf, .fin 3) :=
  Grp.AEx.pairLaw_nanarg_counterexample

/-- **Every built-in simple-combine blueprint obeys the laws.**  `Generated.initRows` is the table of
    `_initialize_aggregation` outcomes regenerated from the running library (func × dtype kind × fill kind ×
    `min_count` positivity).  Every `ok` row for floating data and one of the 17 listed reductions resolves – for any
    user fill, any `min_count` of the row's positivity, any `ddof` – to a blueprint `R` with a `Shape` `s` such that
    * the NumPy kernel of `s` is the one named by `func`;
    * EVERY intermediate column of `R` (the count column appended for `min_count > 0` included) obeys the
      decomposition law (`combine_parts`) and the neutrality law (`absent_block_neutral`);
    * the finalizer is `none` (simple shapes), `sum / count` (mean shapes) or the one-pass variance (var shapes). -/
theorem generated_rows_decompose :
    ∀ row ∈ Generated.initRows, row.ok = true → row.dkind ∈ ["f8", "f4"] →
      row.func ∈ ["sum", "nansum", "prod", "nanprod", "max", "nanmax", "min", "nanmin", "count", "mean", "nanmean",
        "var", "nanvar", "std", "nanstd", "nanfirst", "nanlast"] →
      ∀ (user : Option Val) (mc ddof : Nat), row.mcPos = decide (mc > 0) →
        ∃ R s, row.resolve user mc ddof = some R ∧ R.shape? = some s
          ∧ kernelWithDdof ddof row.func = some s.kernel
          ∧ R.chunk.length = R.combine.length ∧ R.chunk.length = R.interFills.length
          ∧ (∀ t ∈ R.chunk.zip (R.combine.zip R.interFills),
              (∀ parts : List (List Val), parts ≠ [] →
                combineVal t.2.1 (parts.map (blockVal t.1 t.2.2)) = blockVal t.1 t.2.2 parts.flatten)
              ∧ (∀ (p : List Val), (p = [] ∨ (t.1.skipsNaN = true ∧ ∀ x ∈ p, x.isNaN = true)) →
                  ∀ l₁ l₂ : List (List Val), l₁ ++ l₂ ≠ [] →
                    combineVal t.2.1 ((l₁ ++ p :: l₂).map (blockVal t.1 t.2.2))
                      = combineVal t.2.1 ((l₁ ++ l₂).map (blockVal t.1 t.2.2))))
          ∧ s.finalizeOK R.finalize = true := by
  intro row hrow hok hdk hfunc user mc ddof hmc
  obtain ⟨R, s, hf⟩ := Flox.generated_rows_have_shape row hrow hok hdk hfunc user mc ddof hmc
  have hs := (R.shape?_eq_some_iff s).mp hf.shape
  refine ⟨R, s, hf.resolve, hf.shape, hf.kernel, hs.len_combine, hs.len_interFills, ?_, hs.fin⟩
  intro t ht
  have hmem : (t.1, t.2.1, t.2.2) ∈ floatColumns := hs.cols_mem t ht
  exact ⟨fun parts hne => Flox.combine_parts _ _ _ hmem parts hne,
    fun p hp l₁ l₂ hne => Flox.absent_block_neutral _ _ _ hmem p hp l₁ l₂ hne⟩

/-- the table facts used by the end-to-end theorems (C01/C02/C05): shape, kernel, and the hypotheses `H_allnan`,
    `H_minmax`, `H_floxmean` hold for every such row (only `H_absent` is left to the caller) -/
theorem generated_rows_have_shape :
    ∀ row ∈ Generated.initRows, row.ok = true → row.dkind ∈ ["f8", "f4"] →
      row.func ∈ ["sum", "nansum", "prod", "nanprod", "max", "nanmax", "min", "nanmin", "count", "mean", "nanmean",
        "var", "nanvar", "std", "nanstd", "nanfirst", "nanlast"] →
      ∀ (user : Option Val) (mc ddof : Nat), row.mcPos = decide (mc > 0) →
        ∃ R s, row.resolve user mc ddof = some R ∧ R.shape? = some s
          ∧ kernelWithDdof ddof row.func = some s.kernel
          ∧ HAllNaN R s ∧ HMinMax R s ∧ HFloxMean R s
          ∧ R.name = row.func ∧ R.ddof = ddof
          ∧ (mc > 0 → R.minCount = mc) ∧ (mc = 0 → R.minCount ≤ 1)
          ∧ (row.userFill = "user" → R.userFill = user) := by
  intro row hrow hok hdk hfunc user mc ddof hmc
  obtain ⟨R, s, hf⟩ := Flox.generated_rows_have_shape row hrow hok hdk hfunc user mc ddof hmc
  exact ⟨R, s, hf.resolve, hf.shape, hf.kernel, hf.allnan, hf.minmax, hf.floxmean, hf.name, hf.ddof, hf.minCount,
    hf.minCount0, hf.userFill⟩

section
open Val

/-- 3 parts: one with a NaN, one where the group is absent, one plain; for every column -/
example : ∀ t ∈ floatColumns,
    combineVal t.2.1 (exParts.map (blockVal t.1 t.2.2)) = blockVal t.1 t.2.2 exParts.flatten := by
  decide +kernel

/-- with an all-NaN part and infinities -/
example : ∀ t ∈ floatColumns,
    combineVal t.2.1 ([[nan, nan], [pinf, fin 3], [], [nan, fin 0]].map (blockVal t.1 t.2.2))
      = blockVal t.1 t.2.2 [nan, nan, pinf, fin 3, nan, fin 0] := by
  decide +kernel

example : combineVal .nanmax (exParts.map (blockVal .nanmax ninf)) = fin 5
    ∧ combineVal .nanmin (exParts.map (blockVal .nanmin pinf)) = fin (-2)
    ∧ combineVal .sum (exParts.map (blockVal .nansumsq zero)) = fin 30
    ∧ combineVal .nanlast (exParts.map (blockVal .nanlast nan)) = fin 5 := by decide +kernel

/-- `parts ≠ []` cannot be dropped from `combine_parts` (`nanmax`): -/
example : combineVal .nanmax (([] : List (List Val)).map (blockVal .nanmax ninf)) = nan
    ∧ blockVal .nanmax ninf ([] : List (List Val)).flatten = ninf := by decide +kernel

/-- `l₁ ++ l₂ ≠ []` cannot be dropped from `absent_block_neutral`: -/
example : combineVal .nanmax (([] ++ [] :: ([] : List (List Val))).map (blockVal .nanmax ninf))
    ≠ combineVal .nanmax (([] ++ ([] : List (List Val))).map (blockVal .nanmax ninf)) := by decide +kernel

/-- `var_split_combine_finalize` on `[1, -2 | | 4]`, ddof 1: both sides are 9 -/
example : onepass 1 (combineVal .sum ([[fin 1, fin (-2)], [], [fin 4]].map (blockVal .sumsq zero)))
      (combineVal .sum ([[fin 1, fin (-2)], [], [fin 4]].map (blockVal .sum zero)))
      (combineVal .sum ([[fin 1, fin (-2)], [], [fin 4]].map (blockVal .nanlen zero))) = fin 9
    ∧ kEval (.var 1) [fin 1, fin (-2), fin 4] = fin 9 := by decide +kernel

/-- the pair laws on concrete blocks (ties across blocks, a NaN, an all-NaN block) -/
example : Grp.combinePair .argmax (.fin 99) (Grp.AEx.pssA.map fun ps => Grp.blockPair .argmax (.fin 77) ps)
      = Grp.blockPair .argmax (.fin 55) Grp.AEx.pssA.flatten
    ∧ Grp.blockPair .argmax (.fin 55) Grp.AEx.pssA.flatten = (.nan, .fin 8) :=
  ⟨pairLaw_arg .argmax (Or.inl rfl) (fun _ => .fin 77) (.fin 99) (.fin 55) Grp.AEx.pssA (by decide)
    (by decide +kernel), by decide +kernel⟩

example : Grp.HArgFill .nanargmax (Grp.AEx.pssN.flatten.map (·.1))
    ∧ Grp.blockPair .nanargmax (.fin 55) Grp.AEx.pssN.flatten = (.fin 3, .fin 2) := by decide +kernel

end

/-- the table theorem is not vacuous: the float64 `nanvar` row with `min_count > 0` exists and is `ok` -/
example : ∃ row ∈ Generated.initRows, row.ok = true ∧ row.dkind = "f8" ∧ row.func = "nanvar" ∧ row.mcPos = true :=
  ⟨Generated.initRows6[33]'(by decide +kernel),
    initRows_eq ▸ List.mem_flatten_of_mem (List.mem_of_getElem? (i := 6) rfl) (List.getElem_mem _),
    by decide +kernel⟩

end Flox.C04
