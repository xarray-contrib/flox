/-
  C13 — generated tasks are pure, re-executable and serialisable; HENCE a graph can be executed concurrently (any
  interleaving), re-executed after a lost worker, or shipped to another process without changing the result.

  Division of labour
  * That each Python callable in a flox graph leaves its inputs untouched, returns an equal value when called again and
    survives `cloudpickle` is a RUNTIME fact about CPython objects.  It is observed, task by task, by the instrumented
    executor of the harness (harness/props_purity.py: read-only + hashed inputs, double execution, pickling, lost
    results, frozen user arrays, threaded runs) on real graphs of every reduction / scan / strategy / engine.
  * What is PROVED here is the consequence ("hence …"), for ALL graphs, ALL schedules and ALL sizes:
      Model : `Flox.Graph.evalOrder` / `runOps` – a scheduler with a memo table that may execute the tasks in any
              dependency-respecting order, execute any task again at any later time, lose results and recompute them,
              and receive tasks through a faithful round trip (FloxModel/Graph.lean).
      Spec  : `Flox.Graph.Solution g den` – the value of every key is its task's function applied to the values of the
              keys it reads; no schedule is mentioned.
      Ties  : the harness feeds the key/dependency structure of every real graph and the very schedules it executed to
              the driver (`graph` op): the model must accept them, give the same table for all of them, and the table
              of an independent Python evaluation must satisfy `Solution`; the model's prediction "same key ⇒ same
              value in every schedule" is compared with the digests of the real values.
  * The hypothesis "a task is a FUNCTION of its inputs" is what the model's `Task.fn : List V → V` expresses.  Its
    necessity is shown by `counterexample_impure_*`: over tasks that write into an input that a sibling reads (`ITask`),
    the same scheduler gives results that depend on the order and on re-execution.

  PARTIAL by nature: purity of the Python callables is not provable in a functional model; aliasing views and pickling
  of closures are covered by execution only.
-/
import FloxProofs.Graph

namespace Flox.C13
open Flox.Graph

variable {K V : Type} [DecidableEq K]

/-- a schedule without losses is a plain schedule: what is proved of `runOps` below holds of `evalOrder` -/
theorem runOps_exec (g : Graph K V) (o : List K) (m : Memo K V) : runOps g (o.map Op.exec) m = evalOrder g o m := by
  induction o generalizing m with
  | nil => rfl
  | cons k ks ih =>
    rw [List.map_cons, runOps_exec_cons, evalOrder_cons]
    exact congrArg (step g m k).bind (funext ih)

/-! ### (0) model = spec -/

/-- the table computed by ANY complete dependency-respecting schedule is a solution of the graph's equations … -/
theorem eval_is_solution (g : Graph K V) (order : List K) (m : Memo K V)
    (h : evalOrder g order Memo.empty = some m) (hc : Complete g order) : Solution g m :=
  solution_iff.mpr ⟨eval_consistent (consistent_empty g) h, eval_complete h hc⟩

/-- … and it is the only one (a graph that can be executed at all has exactly one meaning) -/
theorem solution_unique (g : Graph K V) (order : List K) (m den : Memo K V)
    (h : evalOrder g order Memo.empty = some m) (hc : Complete g order) (hs : Solution g den) : m = den :=
  runOps_eq_solution hs ((runOps_exec g order _).trans h) (eval_complete h hc)

/-! ### (1) any interleaving -/

/-- any two dependency-respecting complete schedules (each may execute tasks several times) give the same memo table -/
theorem eval_order_irrelevant (g : Graph K V) (o₁ o₂ : List K) (m₁ m₂ : Memo K V)
    (h₁ : evalOrder g o₁ Memo.empty = some m₁) (h₂ : evalOrder g o₂ Memo.empty = some m₂)
    (c₁ : Complete g o₁) (c₂ : Complete g o₂) : m₁ = m₂ :=
  solution_unique g o₁ m₁ m₂ h₁ c₁ (eval_is_solution g o₂ m₂ h₂ c₂)

/-- partial schedules: two arbitrary successful schedules never disagree on a key both have computed … -/
theorem eval_agree_on_common (g : Graph K V) (o₁ o₂ : List K) (m₁ m₂ : Memo K V)
    (h₁ : evalOrder g o₁ Memo.empty = some m₁) (h₂ : evalOrder g o₂ Memo.empty = some m₂)
    (k : K) (v₁ v₂ : V) (e₁ : m₁ k = some v₁) (e₂ : m₂ k = some v₂) : v₁ = v₂ :=
  eval_agree (eval_consistent (consistent_empty g) h₂) (agree_empty _) h₁ k v₁ v₂ e₁ e₂

/-- … so executing the same set of keys gives the same table -/
theorem eval_same_keys (g : Graph K V) (o₁ o₂ : List K) (m₁ m₂ : Memo K V)
    (h₁ : evalOrder g o₁ Memo.empty = some m₁) (h₂ : evalOrder g o₂ Memo.empty = some m₂)
    (hk : ∀ k, k ∈ o₁ ↔ k ∈ o₂) : m₁ = m₂ :=
  memo_ext_of_agree (eval_agree_on_common g o₁ o₂ m₁ m₂ h₁ h₂) fun k => by rw [eval_dom h₁ k, eval_dom h₂ k, hk k]

/-! ### (2) re-execution -/

/-- executing again a task whose result is present changes nothing (and is always possible) -/
theorem reexecute_noop (g : Graph K V) (order : List K) (m : Memo K V) (h : evalOrder g order Memo.empty = some m)
    (k : K) (hk : k ∈ order) : step g m k = some m := by
  obtain ⟨v, hv⟩ := Option.isSome_iff_exists.mp ((eval_dom h k).mpr (.inr hk))
  exact step_replay (eval_consistent (consistent_empty g) h) hv

/-- re-executing any subset of tasks any number of times, each at any position after its first execution
    (`Replays [] o o'`), is possible and does not change the final table -/
theorem eval_replay (g : Graph K V) (o o' : List K) (m : Memo K V) (hr : Replays [] o o')
    (h : evalOrder g o Memo.empty = some m) : evalOrder g o' Memo.empty = some m :=
  eval_replays hr (consistent_empty g) (by simp) h

/-- special case: one extra execution of `k` inserted at any point after `k` ran -/
theorem eval_replay_insert (g : Graph K V) (p s : List K) (k : K) (m : Memo K V) (hk : k ∈ p)
    (h : evalOrder g (p ++ s) Memo.empty = some m) : evalOrder g (p ++ k :: s) Memo.empty = some m :=
  eval_replay g _ _ m (replays_prefix p (.again _ k s s (by simp [hk]) (replays_refl _ s))) h

/-- special case: after the whole schedule, any tasks of it are executed once more in ANY order (not even
    dependency-respecting: everything they need is there) -/
theorem eval_replay_after (g : Graph K V) (o extra : List K) (m : Memo K V) (he : ∀ k ∈ extra, k ∈ o)
    (h : evalOrder g o Memo.empty = some m) : evalOrder g (o ++ extra) Memo.empty = some m :=
  eval_replay g _ _ m (by simpa using replays_prefix o (replays_extra extra (by simpa using he))) h

/-! ### (2') lost workers -/

/-- a schedule that also LOSES results (any of them, at any time) and recomputes what it needs never stores a value
    different from the graph's solution … -/
theorem eval_with_loss_sub (g : Graph K V) (den : Memo K V) (hs : Solution g den) (ops : List (Op K)) (m : Memo K V)
    (h : runOps g ops Memo.empty = some m) (k : K) (v : V) (hk : m k = some v) : den k = some v :=
  runOps_sub hs (sub_empty den) h k v hk

/-- … so once every key is present again the table is the one of an undisturbed run -/
theorem eval_with_loss (g : Graph K V) (order : List K) (m₀ : Memo K V)
    (h₀ : evalOrder g order Memo.empty = some m₀) (hc : Complete g order)
    (ops : List (Op K)) (m : Memo K V) (h : runOps g ops Memo.empty = some m)
    (hall : ∀ k ∈ g.keys, (m k).isSome) : m = m₀ :=
  runOps_eq_solution (eval_is_solution g order m₀ h₀ hc) h hall

/-! ### (3) shipping tasks to another process -/

/-- a graph whose tasks went through a faithful round trip (same keys read, same value on every argument list)
    behaves identically under every schedule -/
theorem eval_shipped (rt : K → Task K V → Task K V) (hf : Faithful rt) (g : Graph K V) (ops : List (Op K))
    (m : Memo K V) : runOps (ship rt g) ops m = runOps g ops m := by
  rw [ship_eq_self hf g]

/-! ### (4) purity is the needed hypothesis -/

/-- the scheduler over impure tasks coincides with the pure one when no task writes anything -/
theorem pure_embeds (g : Graph K V) (o : List K) (m : Memo K V) : ievalOrder g.toI o m = evalOrder g o m := by
  induction o generalizing m with
  | nil => rfl
  | cons k ks ih =>
    simp only [ievalOrder, evalOrder, istep_toI]
    cases step g m k with
    | none => rfl
    | some m' => exact ih m'

/-- key 0 = the shared label codes (value 5); key 1 = a factorisation that reads the codes, returns `codes + 10` AND
    writes the missing-label sentinel 0 into the codes buffer in place (what `_factorize_single` would do without its
    defensive copy); key 2 = a sibling that reads the same codes -/
def impureGraph : IGraph Nat Nat :=
  [ (0, { deps := [], fn := fun _ => 5, writes := fun _ => [] }),
    (1, { deps := [0], fn := fun xs => xs.sum + 10, writes := fun _ => [(0, 0)] }),
    (2, { deps := [0], fn := fun xs => xs.sum, writes := fun _ => [] }) ]

/-- FULL STATEMENT THAT FAILS without purity:
      `∀ g o₁ o₂, both complete and successful → ievalOrder g o₁ ∅ = ievalOrder g o₂ ∅`.
    With an in-place write the sibling's value depends on the interleaving … -/
theorem counterexample_impure_order :
    (ievalOrder impureGraph [0, 1, 2] Memo.empty).map (table · [0, 1, 2]) = some [some 0, some 15, some 0] ∧
    (ievalOrder impureGraph [0, 2, 1] Memo.empty).map (table · [0, 1, 2]) = some [some 0, some 15, some 5] := by
  decide

/-- … and re-executing the writing task gives a different value the second time -/
theorem counterexample_impure_replay :
    (ievalOrder impureGraph [0, 1] Memo.empty).map (table · [0, 1]) = some [some 0, some 15] ∧
    (ievalOrder impureGraph [0, 1, 1] Memo.empty).map (table · [0, 1]) = some [some 0, some 10] := by
  decide

/-! ### non-vacuity: a map-reduce shaped graph (two array blocks sharing one label block, blockwise + combine +
    finalize) -/

/-- 0,1 = array blocks; 2 = label block shared by both chunk tasks; 3,4 = chunk_reduce; 5 = combine; 6 = finalize -/
def exGraph : Graph Nat Int :=
  [ (0, { deps := [], fn := fun _ => 3 }), (1, { deps := [], fn := fun _ => 4 }), (2, { deps := [], fn := fun _ => 7 }),
    (3, { deps := [0, 2], fn := fun xs => xs.sum }), (4, { deps := [1, 2], fn := fun xs => 2 * xs.sum }),
    (5, { deps := [3, 4], fn := fun xs => xs.sum }), (6, { deps := [5], fn := fun xs => xs.sum - 1 }) ]

example : (evalOrder exGraph [0, 1, 2, 3, 4, 5, 6] Memo.empty).map (table · [0, 1, 2, 3, 4, 5, 6])
    = some [some 3, some 4, some 7, some 10, some 22, some 32, some 31] := by decide
/-- another interleaving with re-executions (hypotheses of `eval_order_irrelevant` / `eval_replay` are satisfiable) -/
example : (evalOrder exGraph [2, 1, 4, 0, 4, 3, 2, 5, 3, 6, 5] Memo.empty).map (table · [0, 1, 2, 3, 4, 5, 6])
    = some [some 3, some 4, some 7, some 10, some 22, some 32, some 31] := by decide
example : Complete exGraph [2, 1, 4, 0, 4, 3, 2, 5, 3, 6, 5] := by unfold Complete; decide
example : Replays [] [0, 1, 2, 3] [0, 1, 0, 2, 3, 1, 3] :=
  .keep _ _ _ _ (.keep _ _ _ _ (.again _ _ _ _ (by decide) (.keep _ _ _ _ (.keep _ _ _ _
    (.again _ _ _ _ (by decide) (.again _ _ _ _ (by decide) (.nil _)))))))
/-- a schedule that does not respect dependencies is rejected (the hypotheses are not trivially true) -/
example : (evalOrder exGraph [0, 3] Memo.empty).isNone = true := by decide
/-- losing results: after the combine, block 0's chunk result, the shared labels and the combined result are lost;
    finalising without recomputing them is rejected … -/
example : (runOps exGraph [.exec 0, .exec 1, .exec 2, .exec 3, .exec 4, .exec 5, .lose 3, .lose 2, .lose 5, .exec 6 ] Memo.empty).isNone
    = true := by decide
/-- … and recomputing them first gives the table of the undisturbed run -/
example : (runOps exGraph [.exec 0, .exec 1, .exec 2, .exec 3, .exec 4, .exec 5, .lose 3, .lose 2, .lose 5, .exec 2, .exec 3,
      .exec 5, .exec 6] Memo.empty).map (table · [0, 1, 2, 3, 4, 5, 6])
    = some [some 3, some 4, some 7, some 10, some 22, some 32, some 31] := by decide
example : isSolutionOn exGraph (fun k => [3, 4, 7, 10, 22, 32, 31][k]?) [0, 1, 2, 3, 4, 5, 6, 7, 8] = true := by decide
example : isSolutionOn exGraph (fun k => [3, 4, 7, 10, 22, 33, 32][k]?) [0, 1, 2, 3, 4, 5, 6] = false := by decide
/-- a faithful round trip that is not the identity syntactically -/
example : Faithful (fun (_ : Nat) (t : Task Nat Int) => { deps := t.deps ++ [], fn := fun xs => t.fn xs + 0 }) := by
  intro k t; simp

end Flox.C13
