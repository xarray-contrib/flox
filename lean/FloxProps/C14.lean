/-
  C14 – No side effects; results independent of call history and of co-computed results.

  Model: `FloxModel/State.lean` (registry of blueprints, the writes `_initialize_aggregation` / `groupby_scan` perform,
  memo tables keyed by the token of the full argument, process histories; task graphs as finite maps, union = later
  insertion wins; which call ingredients are hashed into each kind of task name).  The model's `copy` switch and the
  table of names are regenerated from the live code on every run (`FloxModel/Generated/TokenFields.lean`) and re-checked
  here by `decide`.

  The specification is `pureResult`: what a call returns as a function of its own arguments and of the pristine registry
  only, and, for co-computed results, `eval` of each graph alone.
-/
import FloxProofs.State
import FloxModel.Generated.TokenFields
import FloxModel.Generated.Registry

namespace Flox.C14
open Flox Flox.State

/-! ## the model as generated from the code -/

/-- every probed site of the real code works on a copy (regenerated on every run) -/
theorem copy_sites_ok : Generated.deepCopies = true := by decide

def registry₀ : Registry := Registry.ofRows Generated.registry Generated.scans

/-- one API call / a history in the model of the code as it is -/
def step (s : State) (c : ApiCall) : State × ApiResult := stepWith Generated.deepCopies s c
def run (s : State) (cs : List ApiCall) : State := runWith Generated.deepCopies s cs
def trace (s : State) (cs : List ApiCall) : List ApiResult := traceWith Generated.deepCopies s cs

/-! ## (a) no mutation of the registry or of a caller's Aggregation -/

/-- after ANY sequence of calls, from any state, the registry is what it was -/
theorem registry_invariant (s : State) (cs : List ApiCall) : (run s cs).registry = s.registry := by
  unfold run; rw [copy_sites_ok]; exact runWith_true_registry cs s

/-- a caller's own `Aggregation` object is returned to them unchanged, in any state -/
theorem arguments_unchanged (s : State) (a : InitArgs) (bp : Blueprint) (h : a.func = .user bp) :
    (step s (.init a)).2 = .init ⟨some (specialise bp a), some bp⟩ := by
  unfold step; rw [copy_sites_ok]
  simp only [stepWith, initializeWith_true_of_user _ a h]

/-! ## (b) memoisation and history independence -/

/-- a memoised function returns what the pure function returns, and keeps its table sound, for any sound table
    (cachey keyed by `dask.base.tokenize(args)`, `functools.lru_cache`), provided the key determines the value -/
theorem memo_refines {α κ β : Type} [BEq κ] [LawfulBEq κ] (key : α → κ) (f : α → β) (tbl : List (κ × β)) (a : α)
    (hk : KeyCovers key f) (h : MemoSound key f tbl) :
    (memoCall key f tbl a).2 = f a ∧ MemoSound key f (memoCall key f tbl a).1 :=
  ⟨memoCall_result key f tbl a h, memoCall_sound key f tbl a hk h⟩

/-- entries may be evicted at any time without harm -/
theorem memo_evict_sound {α κ β : Type} [BEq κ] [LawfulBEq κ] (key : α → κ) (f : α → β) (keep : κ → Bool)
    (tbl : List (κ × β)) (h : MemoSound key f tbl) : MemoSound key f (evict keep tbl) :=
  evict_sound key f keep tbl h

theorem caches_sound (reg : Registry) (cs : List ApiCall) : Inv (run (fresh reg) cs) := by
  unfold run; exact runWith_inv _ cs _ (inv_fresh reg)

/-- HISTORY INDEPENDENCE: after any history `cs` (from a fresh process, or from any state with sound caches) a call
    returns exactly what the specification says: a function of its arguments and of the pristine registry -/
theorem history_independent (s : State) (cs : List ApiCall) (c : ApiCall) (h : Inv s) :
    (step (run s cs) c).2 = pureResult s.registry c := by
  unfold step run
  rw [copy_sites_ok, stepWith_true_result _ c (runWith_inv true cs s h), runWith_true_registry]

/-- in particular the same call made first in a fresh process and made after any history give the same result -/
theorem last_call_eq_first_call (reg : Registry) (cs : List ApiCall) (c : ApiCall) :
    (step (run (fresh reg) cs) c).2 = (step (fresh reg) c).2 :=
  (history_independent _ cs c (inv_fresh reg)).trans (history_independent _ [] c (inv_fresh reg)).symm

theorem trace_eq_spec (reg : Registry) (cs : List ApiCall) : trace (fresh reg) cs = cs.map (pureResult reg) := by
  unfold trace; rw [copy_sites_ok]; exact traceWith_true cs _ (inv_fresh reg)

/-! ### necessity: what the copies and the full keys prevent -/

def sumMc2 : ApiCall := .init { func := .named "sum", fill := "None", resolvedFinal := "0", minCount := 2, fk := none }

/-- WITHOUT the deep copy the registry entry accumulates an extra counter on every use: the second identical call
    returns a different blueprint (`nanlen` twice) and the registry has changed -/
theorem no_copy_counterexample :
    traceWith false (fresh registry₀) [sumMc2, sumMc2] ≠ [sumMc2, sumMc2].map (pureResult registry₀)
    ∧ (runWith false (fresh registry₀) [sumMc2]).registry ≠ registry₀ := by
  decide +kernel

/-- the same for scans: `ffill` on float32 data would leave its resolved identity behind for a later float64 call -/
theorem no_copy_scan_counterexample :
    traceWith false (fresh registry₀) [.scanInit "ffill" "float32", .scanInit "ffill" "float64"]
      ≠ [ApiCall.scanInit "ffill" "float32", .scanInit "ffill" "float64"].map (pureResult registry₀) := by
  decide +kernel

/-- a memo key that ignores the labels serves one label vector's chunks to another (KeyCovers is necessary) -/
theorem memo_key_counterexample :
    let key : ChunkKey → List Nat := fun k => k.1
    let t₁ := (memoCall key optimalFn [] ([2, 2], [0, 0, 1, 1])).1
    (memoCall key optimalFn t₁ ([2, 2], [0, 0, 0, 1])).2 ≠ optimalFn ([2, 2], [0, 0, 0, 1]) := by
  decide +kernel

/-! ## (c) co-computed results -/

/-- MERGE SAFETY: if two graphs agree on the keys they share, every key evaluates in the union (either insertion order)
    to the value it has in its own graph -/
theorem merge_safe {κ ω V : Type} [BEq κ] [LawfulBEq κ] (sem : ω → List V → V) (g₁ g₂ : Graph κ ω)
    (hc : Compatible g₁ g₂) (n : Nat) (k : κ) (v : V) :
    (eval sem g₁ n k = some v → eval sem (merge g₁ g₂) n k = some v ∧ eval sem (merge g₂ g₁) n k = some v) ∧
    (eval sem g₂ n k = some v → eval sem (merge g₁ g₂) n k = some v ∧ eval sem (merge g₂ g₁) n k = some v) :=
  ⟨fun h => ⟨merge_safe_left sem g₁ g₂ hc n k v h, merge_safe_right sem g₂ g₁ n k v h⟩,
   fun h => ⟨merge_safe_right sem g₁ g₂ n k v h, merge_safe_left sem g₂ g₁ (compatible_symm g₁ g₂ hc) n k v h⟩⟩

/-- every ingredient a kind of task depends on is hashed into its name, and so is everything hashed into the names it
    reads (tables `fieldsOfKind`, `meaningOfKind`, `depsOfKind` read off the source) -/
theorem tokenCovers_holds : tokenCovers = true := by decide

/-- the tables agree with the names the real API produces: for every generated pair of lazy results that differ in one
    ingredient, names of a kind that does not hash the ingredient are equal, names of a kind whose tasks depend on it
    are disjoint -/
theorem generated_rows_ok : Generated.tokenRows.all TokenRow.ok = true := by decide +kernel

/-- hence the graphs of ANY two configurations agree on shared names … -/
theorem names_compatible (c₁ c₂ : Config) : Compatible (configGraph c₁) (configGraph c₂) :=
  configGraph_compatible tokenCovers_holds c₁ c₂

/-- … and evaluating them together gives each layer the value it has alone, whatever the tasks compute -/
theorem names_merge_safe {V : Type} (sem : LayerOp → List V → V) (c₁ c₂ : Config) (n : Nat) (k : Kind) (v : V)
    (h : eval sem (configGraph c₁) n (layerName c₁ k) = some v) :
    eval sem (merge (configGraph c₁) (configGraph c₂)) n (layerName c₁ k) = some v ∧
    eval sem (merge (configGraph c₂) (configGraph c₁)) n (layerName c₁ k) = some v :=
  ((merge_safe sem _ _ (names_compatible c₁ c₂) n _ v).1 h)

/-- necessity of `Compatible`: two graphs that give different tasks the same key; in the union one result silently
    takes the other's value -/
theorem merge_unsafe_counterexample :
    let g₁ : Graph Nat Nat := [(0, ⟨7, []⟩), (1, ⟨1, [0]⟩)]      -- result 1 := f₁(input a)
    let g₂ : Graph Nat Nat := [(0, ⟨8, []⟩), (2, ⟨2, [0]⟩)]      -- result 2 := f₂(input b), input b under the SAME key 0
    eval codeSem (merge g₁ g₂) 3 1 ≠ eval codeSem g₁ 3 1 ∧ eval codeSem (merge g₂ g₁) 3 2 ≠ eval codeSem g₂ 3 2 := by
  decide +kernel

/-- necessity of the token covering the meaning: were `min_count` not hashed into the names (the defect repaired in
    /repo 14d9849), two configurations differing only there would share every name while their tasks differ -/
theorem uncovered_token_counterexample :
    let fields' : Kind → List Ingredient := fun k => (fieldsOfKind k).filter (· ≠ .minCount)
    let c₁ : Config := fun _ => 0
    let c₂ : Config := fun i => if i = .minCount then 1 else 0
    (Kind.chunk, (fields' .chunk).map c₁) = (Kind.chunk, (fields' .chunk).map c₂) ∧ layerTask c₁ .chunk ≠ layerTask c₂ .chunk := by
  decide +kernel

/-! ## non-vacuity -/

/-- a history that exercises every kind of call, with cache hits, evictions and a user blueprint -/
def demoHistory : List ApiCall :=
  [ sumMc2, .optimalChunks [2, 2] [0, 0, 0, 1], .init { func := .named "nanmax", fill := "None", resolvedFinal := "nan", minCount := 0, fk := none },
    .optimalChunks [2, 2] [0, 0, 0, 1], .getParts [(0, 2)] [[1, 1, 1]], .scanInit "bfill" "float32", .evictChunks 0,
    .init { func := .user { name := "mine", numpy := ["sum"], chunk := ["sum"], combine := ["sum"], interFills := ["0"], numpyFills := [],
                            userFill := "unset", finalFill := "NA", minCount := 0, finalizeKwargs := [], isArg := false },
            fill := "-7", resolvedFinal := "-7", minCount := 1, fk := some [("ddof", "1")] },
    .getParts [(0, 2)] [[1, 1, 1]], sumMc2 ]

example : (step (run (fresh registry₀) demoHistory) sumMc2).2 = (step (fresh registry₀) sumMc2).2 :=
  last_call_eq_first_call registry₀ demoHistory sumMc2

-- the results are not trivial: the blueprint is really specialised, the planner really moves a boundary, the cache is
-- hit
example : (step (fresh registry₀) sumMc2).2 =
    .init ⟨some { name := "sum", numpy := ["sum", "nanlen"], chunk := ["sum", "nanlen"], combine := ["sum", "sum"],
                  interFills := ["0", "0"], numpyFills := ["0", "0"], userFill := "None", finalFill := "0", minCount := 2,
                  finalizeKwargs := [], isArg := false }, none⟩ := by decide +kernel
example : (step (fresh registry₀) (.optimalChunks [2, 2] [0, 0, 0, 1])).2 = .chunks [3, 1] := by decide +kernel
example : (run (fresh registry₀) demoHistory).chunkCache.length = 0 ∧ (run (fresh registry₀) demoHistory).partsCache.length = 1 := by
  decide +kernel

-- two graphs that really share a key pass `compatibleB` (the driver's Boolean check; no theorem relates it to
-- `Compatible`), and the union then evaluates both results
example :
    let g₁ : Graph Nat Nat := [(0, ⟨7, []⟩), (1, ⟨1, [0]⟩)]
    let g₂ : Graph Nat Nat := [(0, ⟨7, []⟩), (2, ⟨2, [0]⟩)]
    compatibleB g₁ g₂ = true ∧ eval codeSem (merge g₁ g₂) 3 1 = eval codeSem g₁ 3 1 ∧ (eval codeSem g₁ 3 1).isSome
      ∧ eval codeSem (merge g₁ g₂) 3 2 = eval codeSem g₂ 3 2 := by decide +kernel

-- two configurations that differ only in the labels share the value layer and the arg-reduction preprocessing, nothing
-- else
example :
    let c₁ : Config := fun _ => 0
    let c₂ : Config := fun i => if i = .labels then 1 else 0
    layerName c₁ .argPre = layerName c₂ .argPre ∧ layerName c₁ .values = layerName c₂ .values ∧
    layerName c₁ .chunk ≠ layerName c₂ .chunk ∧ layerName c₁ .result ≠ layerName c₂ .result := by decide +kernel

end Flox.C14
