/-
  C09 — the cohort planner is sound: labels partitioned, blocks covered, members counted once.

  Model: `Flox.Cohorts.findFromArray` (= `flox.core.find_group_cohorts` with `_compute_label_chunk_bitmask`),
  FloxModel/Cohorts.lean.  Specification: `CohortsSound`, `Confined` (same file, bottom).
  `CohortsSound` here is `Flox.Cohorts.CohortsSound`.  `Flox.CohortsSound` (FloxProofs/Cohorts.lean, the hypothesis of
  the `cohorts` end-to-end theorems) is another predicate, over another representation (1-D chunk sizes, labels as
  `Rat`); no theorem connects the two, and the bare name would mean that one if its module were imported here.
  All theorems hold for every label array, every chunk grid (any number of axes) and ARBITRARY threshold functions
  (`Thresholds`; `planner_always_answers` alone asks that they accept full containment), i.e. they do not depend on the
  values 0.4 / 0.75 nor on how the floating-point comparison rounds.

  What is proved here is the planner part of the property.  The "consequently" part (dependency closures of the real
  dask graphs; provenance sums) is about dask graph construction, which is not modelled: it is observed by the
  correspondence harness on the real graphs (harness/props_cohorts.py, stream `graph`).  `members_counted_once` is the
  model-level form of it.
-/
import FloxProofs.CohortPlanner

namespace Flox.C09
open Flox.Cohorts

/-- the element list the planner works on: (code, flat block index) of every element, row-major -/
abbrev elemsOf (codes : List Int) (chunks : List (List Nat)) : List Elem := codes.zip (blockIds chunks)

abbrev nlabelsOf (codes : List Int) (expected : Option Nat) : Nat :=
  match expected with
  | some n => n
  | none => maxPlusOne codes

/-- (a) Whatever the planner returns is sound – every present label is listed in exactly one cohort, exactly once, and
    the cohort's blocks contain every block that holds a member of any of its labels – or it is the explicit non-plan
    `("map-reduce", {})`, which is only produced with `merge=False` (the caller then does not use cohorts at all). -/
theorem planner_sound (T : Thresholds) (codes : List Int) (chunks : List (List Nat)) (expected : Option Nat) (merge : Bool)
    (m : Method) (cs : List Cohort) (h : findFromArray T codes chunks expected merge = .ok m cs) :
    CohortsSound (elemsOf codes chunks) (nlabelsOf codes expected) cs ∨ (m = .mapreduce ∧ cs = [] ∧ merge = false) := by
  rcases find_ok T h with ⟨h1, rfl⟩ | ⟨hs, _⟩ | hn
  · exact Or.inl (singleChunk_sound (h1 ▸ wellFormed_zip codes chunks) _)
  · exact Or.inl (hs.cohortsSound (wellFormed_zip codes chunks))
  · exact Or.inr hn

/-- `method="cohorts"` callers pass `merge=True`: then the returned structure is always sound -/
theorem planner_sound_merge (T : Thresholds) (codes : List Int) (chunks : List (List Nat)) (expected : Option Nat)
    (m : Method) (cs : List Cohort) (h : findFromArray T codes chunks expected true = .ok m cs) :
    CohortsSound (elemsOf codes chunks) (nlabelsOf codes expected) cs := by
  rcases planner_sound T codes chunks expected true m cs h with h | h
  · exact h
  · exact absurd h.2.2 (by simp)

/-- (b) "blockwise" is proposed only if every present label is confined to a single block -/
theorem blockwise_only_if_confined (T : Thresholds) (codes : List Int) (chunks : List (List Nat)) (expected : Option Nat)
    (merge : Bool) (cs : List Cohort) (h : findFromArray T codes chunks expected merge = .ok .blockwise cs) :
    Confined (elemsOf codes chunks) (nlabelsOf codes expected) := by
  have hwf := wellFormed_zip codes chunks
  rcases find_ok T h with ⟨h1, _⟩ | ⟨_, hb⟩ | hn
  · intro l _ e he e' he' _ _
    have := hwf e he
    have := hwf e' he'
    omega
  · exact confined_of_single hwf (hb rfl)
  · cases hn.1

/-- (c) unless the grid has exactly one block, a cohort's block list is exactly the union of its labels' blocks (no
    foreign block) and only present labels are listed.  The hypothesis `nChunks chunks ≠ 1` is needed: with a single
    block the planner takes its shortcut and returns `{(0,): [0..nlabels-1]}`, absent labels included – sound, but not
    exact. -/
theorem cohort_blocks_exact (T : Thresholds) (codes : List Int) (chunks : List (List Nat)) (expected : Option Nat)
    (merge : Bool) (m : Method) (cs : List Cohort) (hne : nChunks chunks ≠ 1)
    (h : findFromArray T codes chunks expected merge = .ok m cs) :
    ∀ c ∈ cs, (∀ b ∈ c.1, ∃ l ∈ c.2, ((l : Int), b) ∈ elemsOf codes chunks) ∧
      (∀ l ∈ c.2, l < nlabelsOf codes expected ∧ ∃ e ∈ elemsOf codes chunks, e.1 = (l : Int)) := by
  rcases find_ok T h with ⟨h1, _⟩ | ⟨hs, _⟩ | ⟨_, rfl, _⟩
  · exact absurd h1 hne
  · intro c hc
    constructor
    · intro b hb
      obtain ⟨l, hl, hlb⟩ := (hs.blocks c hc b).mp hb
      exact ⟨l, hl, (holdsTbl_tblOf.mp hlb).2.2⟩
    · intro l hl
      obtain ⟨h1, b, _, hb⟩ := mem_tblOf_labels.mp (hs.labels.subset (List.mem_flatMap.mpr ⟨c, hc, hl⟩))
      exact ⟨h1, _, hb, rfl⟩
  · nofun

/-- every cohort lists its labels in strictly ascending order.  The graph builder (`dask_groupby_agg`) relies on it:
    the per-cohort aggregate step returns values in sorted label order while the declared groups are the cohort's
    list. -/
theorem cohort_labels_ascending (T : Thresholds) (codes : List Int) (chunks : List (List Nat)) (expected : Option Nat)
    (merge : Bool) (m : Method) (cs : List Cohort) (h : findFromArray T codes chunks expected merge = .ok m cs) :
    ∀ c ∈ cs, c.2.Pairwise (· < ·) := by
  rcases find_ok T h with ⟨_, rfl⟩ | ⟨hs, _⟩ | ⟨_, rfl, _⟩
  · intro c hc
    rw [List.mem_singleton.mp hc]
    exact List.pairwise_lt_range
  · exact hs.asc
  · nofun

/-- members counted once: under a sound cohort structure an element `(l, b)` with a present label is picked up by
    exactly one (cohort, label) slot among the cohorts whose block list includes its block – nothing dropped, nothing
    doubled -/
theorem members_counted_once (elems : List Elem) (nlabels : Nat) (cs : List Cohort) (h : CohortsSound elems nlabels cs)
    (l b : Nat) (hl : l < nlabels) (he : ((l : Int), b) ∈ elems) :
    (cs.flatMap fun c => if b ∈ c.1 then c.2.filter (· == l) else []).length = 1 := by
  rw [slots_eq_occurrences fun c hc hlc => h.2 c hc l hlc _ he rfl]
  exact h.1 l hl ⟨_, he, rfl⟩

/-- the planner always answers: neither `assert` of the merge loop can fire (finding C09-F12, repaired in /repo 82fc226:
    two merged cohorts with the same union of blocks are joined into one).  For arbitrary thresholds that accept full
    containment (`close n n`, as 0.75 does). -/
theorem planner_always_answers (T : Thresholds) (hclose : ∀ n, 0 < n → T.close n n = true)
    (codes : List Int) (chunks : List (List Nat)) (expected : Option Nat) (merge : Bool) :
    ∀ w, findFromArray T codes chunks expected merge ≠ .internalError w :=
  find_no_internalError T hclose (elemsOf codes chunks) (nChunks chunks) (nlabelsOf codes expected) (singleChunks chunks) merge

/-- … with the thresholds of the code, no hypothesis at all -/
theorem planner_always_answers_exact (codes : List Int) (chunks : List (List Nat)) (expected : Option Nat) (merge : Bool) :
    ∀ w, findFromArray exactThresholds codes chunks expected merge ≠ .internalError w :=
  planner_always_answers exactThresholds exactThresholds_close codes chunks expected merge

/-! ### non-vacuity -/

/-- two hubs (labels 0 and 3, eight blocks each, half overlapping) with two satellites each (3/4 inside their hub):
    both merged cohorts span blocks 0..11 -/
def collisionCodes : List Int :=
  [0,1,2,4, 0,1,2,4, 0,1,2,5, 0,1,2,5, 0,1,2,3, 0,1,2,3, 0,3,4,5, 0,3,4,5, 1,3,4,5, 1,3,4,5, 2,3,4,5, 2,3,4,5]
def collisionChunks : List (List Nat) := [[4,4,4,4,4,4,4,4,4,4,4,4]]

/-- the input of finding C09-F12 (dict-key collision): the two merged cohorts are joined into one that lists every
    label once, in ascending order -/
example : findFromArray exactThresholds collisionCodes collisionChunks none true
    = .ok .mapreduce [([0,1,2,3,4,5,6,7,8,9,10,11], [0,1,2,3,4,5])] := by decide +kernel

example : CohortsSound (elemsOf collisionCodes collisionChunks) 6 [([0,1,2,3,4,5,6,7,8,9,10,11], [0,1,2,3,4,5])] := by
  decide +kernel

/-- the merge loop really runs and merges (labels 1, 2 join label 0's cohort; 3 joins 4's): the hypotheses of
    `planner_sound` are satisfiable on a non-trivial input with a missing label and a label (5) absent from the
    array -/
def exCodes : List Int := [0,1, 0,1, 0,2, 0,2, 3,4, 3,4, 4,-1]
def exChunks : List (List Nat) := [[2,2,2,2,2,2,2]]

example : findFromArray exactThresholds exCodes exChunks (some 6) false
    = .ok .cohorts [([0,1,2,3], [0,1,2]), ([4,5,6], [3,4])] := by decide +kernel

example : CohortsSound (elemsOf exCodes exChunks) 6 [([0,1,2,3], [0,1,2]), ([4,5,6], [3,4])] := by decide +kernel

/-- a structure that misses one block (block 6 of label 4) is rejected by the specification -/
example : ¬ CohortsSound (elemsOf exCodes exChunks) 6 [([0,1,2,3], [0,1,2]), ([4,5], [3,4])] := by decide +kernel

/-- … and so is one that lists a label twice -/
example : ¬ CohortsSound (elemsOf exCodes exChunks) 6 [([0,1,2,3], [0,1,2]), ([4,5,6], [3,4]), ([0,1], [1])] := by
  decide +kernel

example : ¬ Confined (elemsOf exCodes exChunks) 6 := by decide +kernel

/-- 2-D labels on a 2×2 chunk grid, blockwise proposed, and the labels are confined -/
example : findFromArray exactThresholds [0,0,1, 0,0,1, 2,2,-1] [[2,1],[2,1]] none false
    = .ok .blockwise [([0],[0]), ([1],[1]), ([2],[2])] := by decide +kernel

example : Confined (elemsOf [0,0,1, 0,0,1, 2,2,-1] [[2,1],[2,1]]) 3 := by decide +kernel

end Flox.C09
