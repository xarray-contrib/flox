/-
  C08 — partial-axis reductions and leading (batch) dimensions are independent slices.

  After `groupby_reduce` has moved the reduced dims last (`_move_reduce_dims_to_end`) and
  `chunk_reduce` has collapsed them (`_collapse_axis`), every partial-axis reduction is the situation
  "labels `R × N` (R = kept label indices), values `B × R × N` (B = batch indices), reduce the last axis":
  `rows` are the `R` code rows, `batches` the `B` stacks of `R` value rows.  The value theorems below are about
  that situation, for all `B, R, N, G`; the transposition itself is index bookkeeping, covered by the metadata
  theorems (which output axis is which input axis) and by the correspondence runs (values).
-/
import FloxProofs.PartialAxis
import FloxProofs.PartialAxisMeta
import FloxProofs.NpgContract

namespace Flox.C08
open Flox.PartialAxis

/-- `offset_labels` arithmetic: a code `0 ≤ c < G` placed in row `r` is `c + r·G`; `/ G` gives back the row and
    `% G` the code -/
theorem offset_div_mod (G r : Nat) (c : Int) (h0 : 0 ≤ c) (hG : c < (G : Int)) :
    offsetCode G r c / (G : Int) = (r : Int) ∧ offsetCode G r c % (G : Int) = c :=
  offsetCode_div_mod G r c h0 hG

/-- … and the missing-label code `-1` is preserved -/
theorem offset_preserves_missing (G r : Nat) : offsetCode G r (-1) = -1 := offsetCode_neg_one G r

/-- For 2-D labels reduced along the last axis, the grouped kernel on the offset codes and the flattened values
    with `R·G` slots, read as `R × G`, is the row-wise 1-D result: no slice leaks into another. -/
theorem offsetLabels_rows (k : Kernel) (fill : Val) (G : Nat) (rows : List (List Int)) (valRows : List (List Val))
    (hcodes : ∀ row ∈ rows, ∀ c ∈ row, -1 ≤ c ∧ c < (G : Int)) (hm : RowsMatch rows valRows) :
    grouped k (offsetRowsFrom G 0 rows).flatten valRows.flatten (rows.length * G) fill
      = (List.range rows.length).flatMap fun r => grouped k (rows.getD r []) (valRows.getD r []) G fill :=
  (slotwise_grouped k fill).offsetRows G rows valRows hcodes hm

/-- The same as the code runs it: the block stage of `chunk_reduce` — clamp to the `RangeIndex`,
    offset, `-1 ↦` sentinel slot `R·G`, kernel call per batch index, sentinel slot dropped, and the `np.full`
    shortcut when every label is missing — equals the row-wise, batch-wise 1-D kernel, for every grouped kernel
    whose slots depend on their own members only (`Slotwise`; e.g. the contract `grouped`). -/
theorem offsetLabels_rows_model (E : List Int → List Val → Nat → List Val) (φ : List Val → Val) (hE : Slotwise E φ)
    (fv : Val) (hfv : φ [] = fv) (G : Nat) (rows : List (List Int)) (batches : List (List (List Val)))
    (hcodes : ∀ row ∈ rows, ∀ c ∈ row, -1 ≤ c ∧ c < (G : Int))
    (hb : ∀ vrows ∈ batches, RowsMatch rows vrows) :
    coreColWith E fv G true rows batches
      = batches.flatMap fun vrows =>
          (List.range rows.length).flatMap fun r => E (rows.getD r []) (vrows.getD r []) G :=
  coreColWith_rows hE hfv G rows batches hcodes hb

/-- the numpy_groupies engine (behind flox's wrappers) satisfies the slot-wise contract for every non-arg kernel.
    `hz` is the `_len` quirk: the wrapper (and the NaN-dropping for `nansum_of_squares`) returns the fill for an
    all-NaN group, so these two kernels agree with `blockVal` only for fill 0 — the `hz` of `chunkReduce_dense'`,
    `LenFillsZero`, `Fits.lenfill`. -/
theorem npg_engine_slotwise (k : Kernel) (fv : Val) (hna : isArgKernel k = false)
    (hz : (k = .nanlen ∨ k = .nansumsq) → fv = Val.zero) :
    Slotwise (fun c v s => engineCall .npg k c v s fv) (blockVal k fv) := by
  intro codes vals size
  simp only [engineCall, hna, Bool.false_eq_true, if_false, engGrouped]
  exact npgGrouped_eq_blockVal k fv codes vals size hna hz

/-- all label dims reduced: no offsetting; one 1-D kernel call per batch index on the flattened labels -/
theorem all_dims_flat (E : List Int → List Val → Nat → List Val) (φ : List Val → Val) (hE : Slotwise E φ)
    (fv : Val) (hfv : φ [] = fv) (G : Nat) (rows : List (List Int)) (batches : List (List (List Val)))
    (hcodes : ∀ row ∈ rows, ∀ c ∈ row, -1 ≤ c ∧ c < (G : Int)) :
    coreColWith E fv G false rows batches = batches.flatMap fun vrows => E rows.flatten vrows.flatten G :=
  coreColWith_slotwise hE hfv G false rows batches hcodes

/-- dims of the value array that the labels do not cover are pure batch dims — the result for a stack of arrays
    is the stack of the results (any engine, any kernel, with or without offsetting). -/
theorem batch_map (E : List Int → List Val → Nat → List Val) (fv : Val) (G : Nat) (offset : Bool)
    (rows : List (List Int)) (b₁ b₂ : List (List (List Val))) :
    coreColWith E fv G offset rows (b₁ ++ b₂)
      = coreColWith E fv G offset rows b₁ ++ coreColWith E fv G offset rows b₂ := by
  simp only [coreColWith_eq, coreColOn_append]

/-- The eager partial-axis pipeline = slice-by-slice evaluation (numpy_groupies engine, non-arg kernel `k` with
    its `nanlen` counter, effective `min_count ≥ 1`, user fill `f`): entry `(b, r, g)` of the result is
    `slotFinal` of the members of group `g` in row `r` of batch `b` — nothing else. -/
theorem eager_pipeline_rows (R : Resolved) (k : Kernel) (fv f : Val) (G lastDim : Nat)
    (rows : List (List Int)) (batches : List (List (List Val)))
    (hnumpy : R.numpy = [k, .nanlen]) (hfills : R.numpyFills = [fv, Val.zero]) (harg : R.isArg = false)
    (hmc : R.minCount > 0) (hfill : R.userFill = some f)
    (hna : isArgKernel k = false) (hz : (k = .nanlen ∨ k = .nansumsq) → fv = Val.zero)
    (hcodes : ∀ row ∈ rows, ∀ c ∈ row, -1 ≤ c ∧ c < (G : Int))
    (hb : ∀ vrows ∈ batches, RowsMatch rows vrows) :
    eagerCore R .npg G true lastDim rows batches
      = some (batches.flatMap fun vrows => (List.range rows.length).flatMap fun r =>
          (List.range G).map fun (g : Nat) =>
            slotFinal k fv R.minCount f (members (Int.ofNat g) (rows.getD r []) (vrows.getD r []))) := by
  have hK := coreColWith_rows_members (npg_engine_slotwise k fv hna hz) (fv := fv) rfl G rows batches hcodes hb
  have hN := coreColWith_rows_members (npg_engine_slotwise .nanlen Val.zero rfl fun _ => rfl) (fv := Val.zero) rfl
    G rows batches hcodes hb
  simp only [eagerCore, hnumpy, hfills, harg, hmc, hfill, List.zip_cons_cons, List.zip_nil_right, List.map_cons,
    List.map_nil, List.headD_cons, List.getLastD_cons, List.getLastD_nil, coreCol, Bool.false_eq_true, if_false, if_true]
  rw [hK, hN, maskCounts_map _ hmc]
  simp only [List.map_flatMap, List.map_map]
  rfl

/-- `groupby_reduce` forces `min_count = 1` when a subset of the label dims is reduced … -/
theorem min_count_forced (rq : PRequest) (nax : Nat) (h : nax < rq.byNdim) (hnone : rq.minCount = none) :
    (PartialAxis.effective rq nax).1 = 1 := by
  simp [PartialAxis.effective, hnone, h]

/-- … so that a group absent from a slice gets the user's fill in that slice
    (whatever the kernel's own fill `fv` for empty slots is). -/
theorem absent_in_slice_filled (k : Kernel) (fv : Val) (mc : Nat) (hmc : 1 ≤ mc) (f : Val) :
    slotFinal k fv mc f [] = f := by
  have : countBelow Val.zero mc = true := by
    simp only [Val.zero, countBelow, decide_eq_true_eq]
    exact Rat.natCast_pos.mpr (by omega)
  simp [slotFinal, this]

theorem axis_sign_irrelevant (ndim a : Nat) (h : a < ndim) :
    normAxis1 ndim ((a : Int) - (ndim : Int)) = normAxis1 ndim (a : Int) := by
  rw [normAxis1_neg ndim a h, normAxis1_nonneg ndim a h]

/-- `groupby_reduce` sorts the normalised axes; for every duplicate-free list of label dims, named in any order,
    output axis `i` (all but the last) is the `i`-th kept dim of the user's array in ascending order -/
theorem kept_dims_positions (ndim byNdim : Nat) (axes : List Nat) (hby : byNdim ≤ ndim) (hnd : axes.Nodup)
    (hlt : ∀ a ∈ axes, a < ndim) (hge : ∀ a ∈ axes, ndim - byNdim ≤ a) (hlen : axes.length ≤ byNdim) :
    outDims ndim (entryOf ndim byNdim (sortNat axes)) = keptDims ndim axes := by
  have hp := perm_sortNat axes
  rw [outDims_eq_kept ndim byNdim (sortNat axes) (hp.nodup_iff.mpr hnd) (fun a ha => hlt a (hp.mem_iff.mp ha))
    (fun a ha => hge a (hp.mem_iff.mp ha)) (by rw [hp.length_eq]; exact hlen),
    keptDims_congr ndim fun _ => hp.mem_iff]

/-- the eager result has the sizes of the kept dims followed by the group axis (last), and the shape announced by
    the graph (`out_inds = inds[:-len(axis)] + (inds[-1],)`) is the same -/
theorem shape_positions (shape : List Nat) (byNdim G : Nat) (axes : List Nat) (hby : byNdim ≤ shape.length)
    (hnd : axes.Nodup) (hlt : ∀ a ∈ axes, a < shape.length) (hge : ∀ a ∈ axes, shape.length - byNdim ≤ a)
    (hlen : axes.length ≤ byNdim) :
    eagerOutShape shape (entryOf shape.length byNdim (sortNat axes)) G
        = (keptDims shape.length axes).map (fun d => shape.getD d 1) ++ [G]
    ∧ chunkedOutShape shape (entryOf shape.length byNdim (sortNat axes)) G
        = eagerOutShape shape (entryOf shape.length byNdim (sortNat axes)) G :=
  ⟨by rw [eagerOutShape_eq, kept_dims_positions shape.length byNdim axes hby hnd hlt hge hlen],
    chunkedOutShape_entryOf shape shape.length byNdim G (sortNat axes)⟩

/-- the order-dependent step of the graph (`_simple_combine` along `axis[:-1] + (DUMMY_AXIS,)`, under map-reduce and
    cohorts) never sees a repeated axis after the `sorted(...)` of the entry — for every duplicate-free list of dims,
    named in any order (the sign is gone after `normAxis1`), for proper subsets of the label dims and for all of them.
    For `blockwise` the model has no such step (`chunkedError` is `none` by definition).  Unsorted, map-reduce
    raises "duplicate value in 'axis'", e.g. for `axis=(2, 1)` (`sorted_entry_is_needed`; the defect repaired in
    /repo b13f971). -/
theorem chunked_graph_ok (ndim byNdim : Nat) (axes : List Nat) (hnd : axes.Nodup) (hlt : ∀ a ∈ axes, a < ndim)
    (m : Method) :
    chunkedError ndim (entryOf ndim byNdim (sortNat axes)) m = none :=
  chunked_ok_of_ascending ndim byNdim (sortNat axes) (ascending_sortNat axes hnd)
    (fun a ha => hlt a ((perm_sortNat axes).mem_iff.mp ha)) m

/-- the `sorted(...)` in the entry is load-bearing: `_simple_combine` itself (`axis[:-1] + (DUMMY_AXIS,)`) still
    depends on the order of `axis_`; the entry never hands it an unsorted one -/
theorem sorted_entry_is_needed :
    chunkedError 3 (entryOf 3 2 [2, 1]) .mapreduce = some "ValueError"
    ∧ chunkedError 3 (entryOf 3 2 (sortNat [2, 1])) .mapreduce = none
    ∧ (entry 3 2 (some [2, 1])).toOption = (entry 3 2 (some [1, 2])).toOption
    ∧ (entry 3 2 (some [-1, 1])).toOption = (entry 3 2 (some [1, 2])).toOption
    ∧ (entry 3 2 (some [1, 2])).toOption = some (entryOf 3 2 [1, 2]) := by
  decide +kernel

/-! ## non-vacuity: the hypotheses are satisfiable on concrete, non-trivial inputs -/

section Examples

private def exRows : List (List Int) := [[0, -1, 1], [1, 1, -1], [-1, -1, -1]]
private def exVals : List (List Val) :=
  [[.fin 1, .fin 2, .fin 3], [.fin 4, .nan, .fin 6], [.fin 7, .fin 8, .fin 9]]

example : RowsMatch exRows exVals := ⟨rfl, rfl, rfl, trivial⟩
example : ∀ row ∈ exRows, ∀ c ∈ row, -1 ≤ c ∧ c < ((2 : Nat) : Int) := by decide

/-- offset codes of the example: rows 0,1,2 use slots 0-1, 2-3, 4-5; missing stays -1 -/
example : (offsetRowsFrom 2 0 exRows).flatten = [0, -1, 1, 3, 3, -1, -1, -1, -1] := by decide

/-- group 0 is absent from row 1 and every group from row 2: those slots hold the fill, the others the row's own
    reduction (row 1, group 1 = nansum [4, NaN] = 4, not contaminated by row 0's 3) -/
example : coreColWith (fun c v s => grouped .nansum c v s Val.nan) Val.nan 2 true exRows [exVals]
    = [.fin 1, .fin 3, .nan, .fin 4, .nan, .nan] := by decide +kernel

example : coreColWith (fun c v s => grouped .nansum c v s Val.nan) Val.nan 2 true exRows [exVals, exVals]
    = [.fin 1, .fin 3, .nan, .fin 4, .nan, .nan, .fin 1, .fin 3, .nan, .fin 4, .nan, .nan] := by decide +kernel

/-- the finished slot: `sum` of an absent group would be 0, the forced `min_count = 1` turns it into the fill -/
example : slotFinal .sum Val.zero 1 (.fin (-7)) [] = .fin (-7) ∧ slotFinal .sum Val.zero 1 (.fin (-7)) [.fin 2, .fin 3] = .fin 5 := by
  decide +kernel

/-- metadata: a 4-D array, 3-D labels (dims 1,2,3), `axis=(3,1)`: dims 0 and 2 are kept, in that order -/
example : outDims 4 (entryOf 4 3 (sortNat [3, 1])) = [0, 2]
    ∧ eagerOutShape [2, 3, 4, 5] (entryOf 4 3 (sortNat [3, 1])) 7 = [2, 4, 7]
    ∧ (entryOf 4 3 (sortNat [3, 1])).order = [0, 2, 1, 3] := by decide

/-- all label dims named in non-ascending order (the defect repaired in /repo b13f971); the blockwise conjunct
    holds by the definition of `chunkedError` -/
example : chunkedError 3 (entryOf 3 3 (sortNat [0, 1, 2])) .blockwise = none
    ∧ chunkedError 3 (entryOf 3 3 (sortNat [2, 1, 0])) .mapreduce = none
    ∧ chunkedError 3 (entryOf 3 3 (sortNat [2, 0, 1])) .cohorts = none := by decide

example : normalizeAxes 4 [-1, 1] = some [3, 1] ∧ normalizeAxes 4 [-1, 3] = none ∧ normalizeAxes 4 [4] = none := by decide

end Examples

end Flox.C08
