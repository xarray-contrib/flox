/-
  C12 — labels found at compute time give the same label → value mapping as the eager computation.
  (The laziness half of C12 – graph construction never computes a chunk – is observed by the harness; it is not a
  statement about values and has no Lean counterpart.)

  When the labels are themselves chunked and no `expected_groups` are given, flox cannot factorise them when the graph
  is built: it runs map-reduce without reindexing, merges blocks with `_grouped_combine` (which discovers the union of
  the blocks' labels at every node of the tree) and finalizes without expected groups.  The model of that path is
  `runUnknown c chunks keys vals : Except String (List Key × List Val)` – `keys` are the RAW labels (`none` = NaN /
  missing), the result is the pair (discovered labels, values).

  Vocabulary:
    `presentKeys keys`            the non-missing labels, with repetitions, in array order
    `Grp.foundOf sort keys`       the distinct non-missing labels: ascending (`sort`) or in order of first appearance
    `Grp.membersK κ keys vals`    the values whose label is `κ`, in array order
    `factorizeLabels keys none sort`
                                  what the eager path does to in-memory labels (`pd.factorize`): (labels, codes)
    `specSlot R k ms`             `Spec.slot k R.minCount R.userFill ms` with `none` read as `ValueError`
    `Grp.specUnknown k R sort keys vals`
                                  (found labels, per found label the `specSlot` of its members), `ValueError` if one
                                  of the slots needs a fill that was not given
    `HMinMax R s`                 nanmax / nanmin: the count mask is on (as the registry forces)
    `Grp.HAllMissing R keys`      `presentKeys keys = [] → R.minCount > 0 → R.userFill ≠ none`: if every label is
                                  missing and the count mask is on, a fill value was given
-/
import FloxProofs.Grouped
import FloxProofs.GroupedExamples
import FloxProofs.LabelOrder

namespace Flox.C12

/-! ## §1 same mapping as the eager computation -/

/-- **Labels found at compute time: same labels, same values as eager.**  For a blueprint with a `Shape`
    (simple-combine reductions on floating data), any chunking into at least one block covering the array, any
    `split_every`: `runUnknown` returns the labels that eager factorisation of the whole label array finds
    (`(factorizeLabels keys none c.sort).1`) and, for them, `Spec.reduce` over the codes eager factorisation assigns –
    which by C01 is what the eager computation returns.

    This includes the case that every label is missing: both sides are then `.ok ([], [])` (§4).

    Narrower than the property: `H_allmissing` – every label missing together with `min_count > 0` and no fill value
    is excluded (necessary: `H_allmissing_counterexample`, §4); `H_minmax` (as everywhere for `nanmax` / `nanmin`,
    `Grp.GEx.H_minmax_grouped_counterexample`). -/
theorem unknown_labels_same_mapping (R : Resolved) (s : Shape) (c : Call) (chunks : List Nat) (keys : List Key)
    (vals : List Val)
    (hR : c.R = R) (heng : c.eng = .npg) (hshape : R.shape? = some s)
    (hlen : keys.length = vals.length)
    (H_minmax : HMinMax R s) (H_allmissing : Grp.HAllMissing R keys)
    (hchunks : chunks ≠ []) (hsum : chunks.sum = keys.length) :
    runUnknown c chunks keys vals
      = (match Spec.reduce s.kernel R.minCount R.userFill (factorizeLabels keys none c.sort).2 vals
            (factorizeLabels keys none c.sort).1.length with
          | some vs => .ok ((factorizeLabels keys none c.sort).1.map some, vs)
          | none => .error "ValueError") := by
  have hs := (R.shape?_eq_some_iff s).mp hshape
  rw [Grp.runUnknown_eq_spec R s c chunks keys vals hR heng hshape hlen H_minmax H_allmissing hchunks hsum,
    Grp.factorizeLabels_none]
  simp only
  -- label by label: the members of the `i`-th found label, addressed by key or by factorised code
  have hm : (Grp.foundOf c.sort keys).mapM (fun r => specSlot R s.kernel (Grp.membersK (some r) keys vals))
      = specResult s.kernel R (keys.map (Grp.codeOf (Grp.foundOf c.sort keys))) vals
          (Grp.foundOf c.sort keys).length := by
    rw [specResult_slots hs]
    rw (occs := .pos [1]) [← map_getD_range (Grp.foundOf c.sort keys) 0, mapM_map]
    apply mapM_congr
    intro i hi
    have hi' : i < (Grp.foundOf c.sort keys).length := by simpa using hi
    rw [Grp.members_by_label _ (Grp.nodup_foundOf c.sort keys) i hi' keys vals]
    congr 3
    simp [List.getD, hi']
  unfold Grp.specUnknown
  rw [hm]
  unfold specResult
  cases Spec.reduce s.kernel R.minCount R.userFill (keys.map (Grp.codeOf (Grp.foundOf c.sort keys))) vals
      (Grp.foundOf c.sort keys).length <;> rfl

/-! ## §2 label by label -/

/-- **`runUnknown` = (found labels, per label the specification slot of the elements carrying it)** -/
theorem runUnknown_eq_spec (R : Resolved) (s : Shape) (c : Call) (chunks : List Nat) (keys : List Key)
    (vals : List Val)
    (hR : c.R = R) (heng : c.eng = .npg) (hshape : R.shape? = some s)
    (hlen : keys.length = vals.length)
    (H_minmax : HMinMax R s) (H_allmissing : Grp.HAllMissing R keys)
    (hchunks : chunks ≠ []) (hsum : chunks.sum = keys.length) :
    runUnknown c chunks keys vals = Grp.specUnknown s.kernel R c.sort keys vals :=
  Grp.runUnknown_eq_spec R s c chunks keys vals hR heng hshape hlen H_minmax H_allmissing hchunks hsum

theorem specUnknown_def (k : Kernel) (R : Resolved) (sort : Bool) (keys : List Key) (vals : List Val) :
    Grp.specUnknown k R sort keys vals
      = (match (Grp.foundOf sort keys).mapM (fun r => specSlot R k (Grp.membersK (some r) keys vals)) with
          | .error e => .error e
          | .ok vs => .ok ((Grp.foundOf sort keys).map some, vs)) := rfl

/-- with `sort = true` the discovered labels are strictly ascending … -/
theorem foundOf_sorted (keys : List Key) : (Grp.foundOf true keys).Pairwise (· < ·) :=
  pairwise_uniqSorted _

/-- … and in both modes they are duplicate-free and exactly the non-missing labels of the data: no label is lost,
    none is invented, none is repeated -/
theorem foundOf_spec (sort : Bool) (keys : List Key) :
    (Grp.foundOf sort keys).Nodup ∧ ∀ r, r ∈ Grp.foundOf sort keys ↔ some r ∈ keys :=
  ⟨Grp.nodup_foundOf sort keys, fun r => Grp.mem_foundOf sort r keys⟩

/-- they are the labels eager factorisation (`pd.factorize(sort=sort)` on the in-memory labels) finds, and the eager
    codes point at them -/
theorem foundOf_eq_eager_factorize (keys : List Key) (sort : Bool) :
    factorizeLabels keys none sort = (Grp.foundOf sort keys, keys.map (Grp.codeOf (Grp.foundOf sort keys))) :=
  Grp.factorizeLabels_none keys sort

/-! ## §3 chunking and tree are irrelevant -/

/-- two calls that differ in the chunking and in `split_every` (same `sort`) discover the same labels and attach the
    same values -/
theorem runUnknown_chunking_tree_irrelevant (R : Resolved) (s : Shape) (c₁ c₂ : Call) (chunks₁ chunks₂ : List Nat)
    (keys : List Key) (vals : List Val)
    (hR₁ : c₁.R = R) (heng₁ : c₁.eng = .npg) (hR₂ : c₂.R = R) (heng₂ : c₂.eng = .npg) (hsort : c₁.sort = c₂.sort)
    (hshape : R.shape? = some s)
    (hlen : keys.length = vals.length)
    (H_minmax : HMinMax R s) (H_allmissing : Grp.HAllMissing R keys)
    (hchunks₁ : chunks₁ ≠ []) (hsum₁ : chunks₁.sum = keys.length)
    (hchunks₂ : chunks₂ ≠ []) (hsum₂ : chunks₂.sum = keys.length) :
    runUnknown c₁ chunks₁ keys vals = runUnknown c₂ chunks₂ keys vals :=
  Grp.runUnknown_chunking_tree_irrelevant R s c₁ c₂ chunks₁ chunks₂ keys vals hR₁ heng₁ hR₂ heng₂ hsort hshape hlen
    H_minmax H_allmissing hchunks₁ hsum₁ hchunks₂ hsum₂

/-! ## §4 every label missing -/

/-- **every label missing: no group at all** (finding C12-F2, repaired in /repo 2e9744c).  `_aggregate` drops the `NaN`
    placeholder group that the all-missing blocks carry through the tree, so the result is empty, exactly like the
    eager computation (`factorizeLabels keys none sort` finds no label).  `hfill`: if the count mask is on, a fill value
    was given. -/
theorem runUnknown_all_missing (R : Resolved) (s : Shape) (c : Call) (chunks : List Nat) (keys : List Key)
    (vals : List Val)
    (hR : c.R = R) (heng : c.eng = .npg) (hshape : R.shape? = some s)
    (hlen : keys.length = vals.length) (hmiss : presentKeys keys = [])
    (H_minmax : HMinMax R s) (hfill : R.minCount > 0 → R.userFill ≠ none)
    (hchunks : chunks ≠ []) (hsum : chunks.sum = keys.length) :
    runUnknown c chunks keys vals = .ok ([], []) :=
  Grp.runUnknown_all_missing R s c chunks keys vals hR heng hshape hlen hmiss H_minmax hfill hchunks hsum

/-- **every label missing, `min_count > 0`, no fill value: `ValueError`** (not repaired in /repo).  `_finalize_results`
    applies the count mask to the placeholder group (count 0) *before* that group is dropped, so it raises
    `ValueError("Filling is required but fill_value is None.")`, while the eager computation returns the empty
    result.  This is exactly the case `H_allmissing` excludes. -/
theorem runUnknown_all_missing_error (R : Resolved) (s : Shape) (c : Call) (chunks : List Nat) (keys : List Key)
    (vals : List Val)
    (hR : c.R = R) (heng : c.eng = .npg) (hshape : R.shape? = some s)
    (hlen : keys.length = vals.length) (hmiss : presentKeys keys = [])
    (hmc : R.minCount > 0) (hfill : R.userFill = none)
    (hchunks : chunks ≠ []) (hsum : chunks.sum = keys.length) :
    runUnknown c chunks keys vals = .error "ValueError" := by
  subst hR
  have hs := (c.R.shape?_eq_some_iff s).mp hshape
  rw [runUnknown_eq, heng, Grp.mapreduce_sparse c chunks keys vals c.splitEvery hs.groupedOK heng hchunks hsum hlen
    (fun _ _ => trivial), Grp.finalize_all_missing hs c.sort keys vals hmiss, maskedSlot_countVal]
  have : c.R.minCount > 0 ∧ Spec.validCount [] < c.R.minCount := ⟨hmc, by rw [validCount_nil]; exact hmc⟩
  simp only [this, and_self, if_true, fillOrError, optToExcept, hfill]

/-- the witness of finding C12-F2 (before /repo 2e9744c the result was `([NaN], [-1])`): `nanmean`, `min_count=1`,
    `fill_value=-1`, labels `[NaN, NaN, NaN]` in two blocks -/
theorem all_missing_example :
    runUnknown { E2E.mkCall E2E.Rnanmean .npg 0 2 with knownLabels := false } [2, 1] [none, none, none]
        [.fin 1, .fin 2, .nan]
      = Grp.specUnknown .nanmean E2E.Rnanmean true [none, none, none] [.fin 1, .fin 2, .nan]
    ∧ Grp.specUnknown .nanmean E2E.Rnanmean true [none, none, none] [.fin 1, .fin 2, .nan] = .ok ([], []) :=
  ⟨Grp.runUnknown_eq_spec E2E.Rnanmean (.mean true) _ [2, 1] [none, none, none] [.fin 1, .fin 2, .nan] rfl rfl
      E2E.Rnanmean_shape rfl E2E.Rnanmean_minmax Grp.GEx.Rnanmean_allMissing (by decide) rfl,
    by decide +kernel⟩

/-- **`H_allmissing` is necessary**: the same call without a fill value raises, the specification is empty -/
theorem H_allmissing_counterexample :
    ¬ Grp.HAllMissing { E2E.Rnanmean with userFill := none } [none, none, none]
    ∧ runUnknown { E2E.mkCall { E2E.Rnanmean with userFill := none } .npg 0 2 with knownLabels := false } [2, 1]
        [none, none, none] [.fin 1, .fin 2, .nan] = .error "ValueError"
    ∧ Grp.specUnknown .nanmean { E2E.Rnanmean with userFill := none } true [none, none, none]
        [.fin 1, .fin 2, .nan] = .ok ([], []) := by decide +kernel

/-! ### non-vacuity -/

open E2E Grp.GEx in
/-- labels `5, NaN, 2, 5, 2, 2, 5, 3` in 4 blocks, binary tree; label 3 is all-NaN (masked, fill -1), one element has a
    missing label: the theorem applies and the mapping is a real one -/
example :
    runUnknown { mkCall Rnanmean .npg 0 2 with knownLabels := false } [2, 1, 3, 2] keys8 vals8
      = (match Spec.reduce .nanmean Rnanmean.minCount Rnanmean.userFill (factorizeLabels keys8 none true).2 vals8
            (factorizeLabels keys8 none true).1.length with
          | some vs => .ok ((factorizeLabels keys8 none true).1.map some, vs)
          | none => .error "ValueError")
    ∧ factorizeLabels keys8 none true = ([2, 3, 5], [2, -1, 0, 2, 0, 0, 2, 1])
    ∧ runUnknown { mkCall Rnanmean .npg 0 2 with knownLabels := false } [2, 1, 3, 2] keys8 vals8
      = .ok ([some 2, some 3, some 5], [Val.fin 4, Val.fin (-1), Val.fin (3/2)]) :=
  ⟨unknown_labels_same_mapping Rnanmean (.mean true) _ [2, 1, 3, 2] keys8 vals8 rfl rfl Rnanmean_shape rfl
      Rnanmean_minmax Rnanmean_allMissing (by decide) rfl,
    by decide +kernel, nanmean_unknown.trans nanmean_unknown_spec⟩

end Flox.C12
