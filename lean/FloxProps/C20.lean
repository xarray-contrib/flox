/-
  C20 — numeric fidelity: infinities are data, not missing; var agrees between eager and chunked evaluation (no
  statement here is about std).

  The model computes in `Val` = exact rationals + NaN + ±inf with IEEE-754 rules for the special values.  Therefore
    * ROUNDING IS NOT MODELLED.  "var/std of well-conditioned data agree to floating-point accuracy" is proved here
      only in its exact-arithmetic form (the one-pass formula EQUALS the two-pass one, §3); cancellation in
      `sumsq - sum²/n` on ill-conditioned float data is outside the model and is observed by the harness only.
    * INTEGER WRAP-AROUND is not part of `Val` (no machine widths).  It is modelled separately in
      `FloxModel/IntWidth.lean` (fixed-width two's-complement accumulators: the three eager engines and the chunked
      pipeline for sums / products of integers) and treated in §4; the link from that model to the code is the
      regenerated dtype table (which dtype is handed to the kernels) plus the harness (the `intwidth` driver op is run
      on every integer sum / product case and compared with flox, with and without the cast-first repair).
-/
import FloxProofs.EngineFloxCorrect
import FloxProofs.Finalize
import FloxProofs.Columns
import FloxProofs.IntWidthTable

namespace Flox.C20

/-! ## §1 infinities in the kernels and in every engine -/

/-- **flox's own engine, `nanmax` / `nanmin`** (`_nan_grouped_op`: NaN replaced by ∓inf, `maximum.reduceat` on the
    stably sorted array, all-NaN groups detected afterwards): every slot is the block value of the group's members in
    original order – `C01.floxEngine_eq_blockVal` specialised.  `blockVal k fill ms` is `fill` for a group without
    members or without valid members, NumPy's `nanmax` / `nanmin` otherwise. -/
theorem floxEngine_nanminmax_eq_blockVal (k : Kernel) (hk : k = .nanmax ∨ k = .nanmin)
    (codes : List Int) (vals : List Val) (size : Nat) (fill : Val) (hlen : codes.length = vals.length) :
    EngineFlox.run? k codes vals size fill
      = some ((List.range size).map fun (g : Nat) => blockVal k fill (members (Int.ofNat g) codes vals)) :=
  Flox.floxEngine_eq_blockVal k (by rcases hk with rfl | rfl <;> simp) codes vals size fill hlen

/-- **every engine** (`eng ∈ {npg, flox, numbagg}`) returns NumPy's `nanmax` / `nanmin` of the members for every group
    that has at least one valid (non-NaN) member – whatever the fill, whatever else is in the array -/
theorem every_engine_nanminmax (eng : Eng) (k : Kernel) (hk : k = .nanmax ∨ k = .nanmin) (codes : List Int)
    (vals : List Val) (size : Nat) (fill : Val) (hlen : codes.length = vals.length) (g : Nat) (hg : g < size)
    (hvalid : dropNaN (members (Int.ofNat g) codes vals) ≠ []) :
    (engGrouped eng k codes vals size fill)[g]? = some (kEval k (members (Int.ofNat g) codes vals)) := by
  have hmem : k ∈ [Kernel.sum, .prod, .max, .min, .nansum, .nanprod, .nanmax, .nanmin, .sumsq, .nansumsq, .nanlen] := by
    rcases hk with rfl | rfl <;> simp
  have hfill : k = .nanlen ∨ k = .nansumsq → fill = Val.zero := by
    rcases hk with rfl | rfl <;> intro h <;> rcases h with h | h <;> cases h
  have hslot : ((List.range size).map fun (i : Nat) => blockVal k fill (members (Int.ofNat i) codes vals))[g]?
      = some (kEval k (members (Int.ofNat g) codes vals)) := by
    rw [List.getElem?_map, List.getElem?_range hg, Option.map_some, blockVal_of_valid _ _ _ hvalid]
  cases eng with
  | npg => exact (congrArg (·[g]?) (npgGrouped_eq_blockVal k fill codes vals size (by rcases hk with rfl | rfl <;> rfl) hfill)).trans hslot
  | flox => exact (congrArg (·[g]?) (floxGrouped_eq_blockVal k hmem codes vals size fill)).trans hslot
  | numbagg => exact numbaggGrouped_slot k hk codes vals size fill g hg hvalid

/-- NumPy's `nanmax` of members that include `+inf` is `+inf` (NaN members are skipped, not confused with it) -/
theorem nanmax_keeps_pinf (ms : List Val) (h : Val.pinf ∈ ms) : kEval .nanmax ms = Val.pinf := by
  rw [kEval_nanmax_of_valid ms (dropNaN_ne_nil_of_mem h rfl)]
  exact vmax_pinf _ (fun x hx => (mem_dropNaN.mp hx).2) (mem_dropNaN.mpr ⟨h, rfl⟩)

/-- NumPy's `nanmax` of members whose only valid values are `-inf` is `-inf` – not NaN, not the fill -/
theorem nanmax_only_ninf (ms : List Val) (h : Val.ninf ∈ ms) (hall : ∀ x ∈ ms, x = Val.ninf ∨ x = Val.nan) :
    kEval .nanmax ms = Val.ninf := by
  rw [kEval_nanmax_of_valid ms (dropNaN_ne_nil_of_mem h rfl)]
  refine vmax_all_ninf _ (dropNaN_ne_nil_of_mem h rfl) fun x hx => ?_
  obtain ⟨hx1, hx2⟩ := mem_dropNaN.mp hx
  exact (hall x hx1).resolve_right (fun e => by rw [e] at hx2; cases hx2)

/-- mirror images for `nanmin` -/
theorem nanmin_keeps_ninf (ms : List Val) (h : Val.ninf ∈ ms) : kEval .nanmin ms = Val.ninf := by
  rw [kEval_nanmin_of_valid ms (dropNaN_ne_nil_of_mem h rfl)]
  exact vmin_ninf _ (fun x hx => (mem_dropNaN.mp hx).2) (mem_dropNaN.mpr ⟨h, rfl⟩)

theorem nanmin_only_pinf (ms : List Val) (h : Val.pinf ∈ ms) (hall : ∀ x ∈ ms, x = Val.pinf ∨ x = Val.nan) :
    kEval .nanmin ms = Val.pinf := by
  rw [kEval_nanmin_of_valid ms (dropNaN_ne_nil_of_mem h rfl)]
  refine vmin_all_pinf _ (dropNaN_ne_nil_of_mem h rfl) fun x hx => ?_
  obtain ⟨hx1, hx2⟩ := mem_dropNaN.mp hx
  exact (hall x hx1).resolve_right (fun e => by rw [e] at hx2; cases hx2)

/-- `max` / `min` (NaN-propagating): on NaN-free members that include `+inf` / `-inf` the result is that infinity -/
theorem max_keeps_pinf (ms : List Val) (hnn : ∀ x ∈ ms, x.isNaN = false) (h : Val.pinf ∈ ms) :
    kEval .max ms = Val.pinf :=
  vmax_pinf ms hnn h

theorem min_keeps_ninf (ms : List Val) (hnn : ∀ x ∈ ms, x.isNaN = false) (h : Val.ninf ∈ ms) :
    kEval .min ms = Val.ninf :=
  vmin_ninf ms hnn h

/-- **every engine: a group whose valid members include `+inf` has `nanmax = +inf`** -/
theorem every_engine_nanmax_pinf (eng : Eng) (codes : List Int) (vals : List Val) (size : Nat) (fill : Val)
    (hlen : codes.length = vals.length) (g : Nat) (hg : g < size)
    (h : Val.pinf ∈ members (Int.ofNat g) codes vals) :
    (engGrouped eng .nanmax codes vals size fill)[g]? = some Val.pinf := by
  rw [every_engine_nanminmax eng .nanmax (Or.inl rfl) codes vals size fill hlen g hg
    (dropNaN_ne_nil_of_mem h rfl), nanmax_keeps_pinf _ h]

/-- **every engine: a group whose only valid member(s) are `-inf` has `nanmax = -inf`** (flox's engine substitutes
    `-inf` for NaN before reducing; the substitute does not swallow the genuine `-inf`) -/
theorem every_engine_nanmax_only_ninf (eng : Eng) (codes : List Int) (vals : List Val) (size : Nat) (fill : Val)
    (hlen : codes.length = vals.length) (g : Nat) (hg : g < size)
    (h : Val.ninf ∈ members (Int.ofNat g) codes vals)
    (hall : ∀ x ∈ members (Int.ofNat g) codes vals, x = Val.ninf ∨ x = Val.nan) :
    (engGrouped eng .nanmax codes vals size fill)[g]? = some Val.ninf := by
  rw [every_engine_nanminmax eng .nanmax (Or.inl rfl) codes vals size fill hlen g hg
    (dropNaN_ne_nil_of_mem h rfl), nanmax_only_ninf _ h hall]

/-- the mirror images for `nanmin` -/
theorem every_engine_nanmin_ninf (eng : Eng) (codes : List Int) (vals : List Val) (size : Nat) (fill : Val)
    (hlen : codes.length = vals.length) (g : Nat) (hg : g < size)
    (h : Val.ninf ∈ members (Int.ofNat g) codes vals) :
    (engGrouped eng .nanmin codes vals size fill)[g]? = some Val.ninf := by
  rw [every_engine_nanminmax eng .nanmin (Or.inr rfl) codes vals size fill hlen g hg
    (dropNaN_ne_nil_of_mem h rfl), nanmin_keeps_ninf _ h]

theorem every_engine_nanmin_only_pinf (eng : Eng) (codes : List Int) (vals : List Val) (size : Nat) (fill : Val)
    (hlen : codes.length = vals.length) (g : Nat) (hg : g < size)
    (h : Val.pinf ∈ members (Int.ofNat g) codes vals)
    (hall : ∀ x ∈ members (Int.ofNat g) codes vals, x = Val.pinf ∨ x = Val.nan) :
    (engGrouped eng .nanmin codes vals size fill)[g]? = some Val.pinf := by
  rw [every_engine_nanminmax eng .nanmin (Or.inr rfl) codes vals size fill hlen g hg
    (dropNaN_ne_nil_of_mem h rfl), nanmin_only_pinf _ h hall]

/-! ## §2 through the chunked pipeline (intermediate fill `-inf` for `nanmax`) -/

/-- split the group's members into any number of ordered parts (absent and all-NaN parts hold the sentinel `-inf`),
    combine with `nanmax`: if some member is `+inf` the result is `+inf` -/
theorem chunked_nanmax_keeps_pinf (parts : List (List Val)) (h : Val.pinf ∈ parts.flatten) :
    combineVal .nanmax (parts.map (blockVal .nanmax Val.ninf)) = Val.pinf := by
  have hne : parts ≠ [] := by intro e; subst e; simp at h
  rw [Flox.combine_parts .nanmax .nanmax Val.ninf (by decide) parts hne,
    blockVal_of_valid _ _ _ (dropNaN_ne_nil_of_mem h rfl), nanmax_keeps_pinf _ h]

/-- … and if the only valid members are `-inf` the result is `-inf`: the genuine value, which here coincides with the
    sentinel – that the group HAS a valid member is recorded by the count column (`H_minmax`: the registry forces
    `min_count ≥ 1` for `nanmax` / `nanmin`), not by comparing with the sentinel -/
theorem chunked_nanmax_only_ninf (parts : List (List Val)) (h : Val.ninf ∈ parts.flatten)
    (hall : ∀ x ∈ parts.flatten, x = Val.ninf ∨ x = Val.nan) :
    combineVal .nanmax (parts.map (blockVal .nanmax Val.ninf)) = Val.ninf
    ∧ combineVal .sum (parts.map (blockVal .nanlen Val.zero)) = kEval .nanlen parts.flatten
    ∧ kEval .nanlen parts.flatten ≠ Val.zero := by
  have hne : parts ≠ [] := by intro e; subst e; simp at h
  have hv := dropNaN_ne_nil_of_mem h rfl
  refine ⟨?_, ?_, ?_⟩
  · rw [Flox.combine_parts .nanmax .nanmax Val.ninf (by decide) parts hne,
      blockVal_of_valid _ _ _ hv, nanmax_only_ninf _ h hall]
  · rw [Flox.combine_parts .nanlen .sum Val.zero (by decide) parts hne, blockVal_of_valid _ _ _ hv]
  · exact fun e => hv ((vcount_eq_zero _).mp e)

theorem chunked_nanmin_keeps_ninf (parts : List (List Val)) (h : Val.ninf ∈ parts.flatten) :
    combineVal .nanmin (parts.map (blockVal .nanmin Val.pinf)) = Val.ninf := by
  have hne : parts ≠ [] := by intro e; subst e; simp at h
  rw [Flox.combine_parts .nanmin .nanmin Val.pinf (by decide) parts hne,
    blockVal_of_valid _ _ _ (dropNaN_ne_nil_of_mem h rfl), nanmin_keeps_ninf _ h]

/-- codes `[1, 0, 1, 0, 2, 2]` (unsorted), group 0 = `[+inf, NaN]`, group 1 = `[-inf, NaN]`… evaluated on all three
    engines: the infinities survive, the all-NaN group 2 gets the fill 7 (numbagg: NaN, its own convention) -/
example :
    engGrouped .flox .nanmax [1, 0, 1, 0, 2, 2] [.ninf, .pinf, .nan, .nan, .nan, .nan] 3 (.fin 7)
      = [.pinf, .ninf, .fin 7]
    ∧ engGrouped .npg .nanmax [1, 0, 1, 0, 2, 2] [.ninf, .pinf, .nan, .nan, .nan, .nan] 3 (.fin 7)
      = [.pinf, .ninf, .fin 7]
    ∧ engGrouped .numbagg .nanmax [1, 0, 1, 0, 2, 2] [.ninf, .pinf, .nan, .nan, .nan, .nan] 3 (.fin 7)
      = [.pinf, .ninf, .nan] := by decide +kernel

/-- `every_engine_nanmax_only_ninf` applies to group 1 of these data -/
example : (engGrouped .flox .nanmax [1, 0, 1, 0, 2, 2] [.ninf, .pinf, .nan, .nan, .nan, .nan] 3 (.fin 7))[1]?
    = some Val.ninf :=
  every_engine_nanmax_only_ninf .flox _ _ 3 (.fin 7) rfl 1 (by decide) (by decide +kernel) (by decide +kernel)

/-- chunked: `[NaN | -inf, NaN | (absent) ]` -/
example : combineVal .nanmax ([[.nan], [.ninf, .nan], []].map (blockVal .nanmax Val.ninf)) = Val.ninf
    ∧ combineVal .sum ([[.nan], [.ninf, .nan], []].map (blockVal .nanlen Val.zero)) = Val.fin 1 := by decide +kernel

/-! ## §3 var (exact arithmetic; `onepass ddof sq s c = (sq - s*s/c) / (c - ddof)`, NaN when `c ≤ ddof`) -/

/-- the one-pass finalizer of the chunked path on the stored (sum of squares, sum, count) EQUALS the two-pass
    `np.var(ddof)` of the eager path, for every member list (empty, with NaN, with ±inf) -/
theorem var_finalize (ddof : Nat) (ms : List Val) :
    onepass ddof (blockVal .sumsq Val.zero ms) (blockVal .sum Val.zero ms) (blockVal .nanlen Val.zero ms)
      = kEval (.var ddof) ms :=
  Flox.var_finalize ddof ms

theorem nanvar_finalize (ddof : Nat) (ms : List Val) :
    onepass ddof (blockVal .nansumsq Val.zero ms) (blockVal .nansum Val.zero ms) (blockVal .nanlen Val.zero ms)
      = kEval (.nanvar ddof) ms :=
  Flox.nanvar_finalize ddof ms

/-- a NaN or ±inf member makes BOTH sides NaN (`Val.isFinite x`: `x` is a rational): infinities are not silently
    turned into large finite variances, and eager and chunked agree on them -/
theorem var_nonfinite (ddof : Nat) (ms : List Val) (h : ∃ x ∈ ms, x.isFinite = false) :
    onepass ddof (blockVal .sumsq Val.zero ms) (blockVal .sum Val.zero ms) (blockVal .nanlen Val.zero ms) = Val.nan
    ∧ kEval (.var ddof) ms = Val.nan :=
  have h2 : kEval (.var ddof) ms = Val.nan := vvar_nonfin ddof ms h
  ⟨(Flox.var_finalize ddof ms).trans h2, h2⟩

/-- `nanvar`: NaN members are skipped, a ±inf member makes both sides NaN -/
theorem nanvar_nonfinite (ddof : Nat) (ms : List Val) (h : Val.pinf ∈ ms ∨ Val.ninf ∈ ms) :
    onepass ddof (blockVal .nansumsq Val.zero ms) (blockVal .nansum Val.zero ms) (blockVal .nanlen Val.zero ms)
      = Val.nan
    ∧ kEval (.nanvar ddof) ms = Val.nan :=
  Flox.nanvar_nonfinite ddof ms h

/-- var with a `+inf` member: both sides NaN; finite members: a real value on both sides -/
example : onepass 0 (blockVal .sumsq Val.zero [.pinf, .fin (-1)]) (blockVal .sum Val.zero [.pinf, .fin (-1)])
      (blockVal .nanlen Val.zero [.pinf, .fin (-1)]) = Val.nan
    ∧ kEval (.var 0) [.pinf, .fin (-1)] = Val.nan
    ∧ kEval (.var 1) [.fin 1, .fin (-2), .fin 4] = Val.fin 9 := by decide +kernel

/-! ## §4 integer sums and products never wrap at the input width

  Vocabulary: `FloxModel/IntWidth.lean` (`wrapS` / `wrapU`, `accW`, `engineSum castFirst wIn wAcc`, `chunkedSum … t`
  over an ARBITRARY tree `t` of blocks; `…U` = unsigned, `…Prod` = products; `inS w x` / `inU w x` = representable)
  and `FloxProofs/IntWidth.lean` (`absSum xs = Σ|x_i|`, `absProd xs = Π|x_i|`).  `xs.sum` / `xs.prod` are the exact
  (unbounded) totals.  Under `castFirst = true` the input width `wIn` is inert: the input wrap is never applied
  (`engineSum true a w xs = engineSum true b w xs` by `rfl`); that the engines do convert first is what
  `narrow_accumulation_counterexample` is about. -/

open Flox.IntWidth in
/-- if every non-empty prefix `xs.take (k + 1)` of the exact fold is representable (`R`), a wrapping accumulator equals
    the exact fold.  `wrap` is ANY function that leaves representable values alone: no assumption on what overflow
    does.  Sums: `op = (· + ·)`, `init = 0`; products: `op = (· * ·)`, `init = 1`. -/
theorem accW_exact (wrap : Int → Int) (R : Int → Prop) (hR : ∀ x, R x → wrap x = x) (op : Int → Int → Int)
    (init : Int) (xs : List Int) (hpre : ∀ k, k < xs.length → R ((xs.take (k + 1)).foldl op init)) :
    accW wrap op init xs = xs.foldl op init :=
  IntWidth.accW_exact wrap R hR op init xs hpre

open Flox.IntWidth in
/-- … for the `w`-bit signed sum and product (the sharper, sequential form of `sum_exact_of_abs_bound`) -/
theorem sum_exact_of_prefix_bound {w : Nat} (hw : 1 ≤ w) (xs : List Int)
    (hpre : ∀ k, k < xs.length → inS w (xs.take (k + 1)).sum) : accW (wrapS w) (· + ·) 0 xs = xs.sum :=
  by rw [IntWidth.accW_exact (wrapS w) (inS w) (fun _ hx => wrapS_of_inS hw hx) (· + ·) 0 xs
    (fun k hk => by rw [foldl_add_zero]; exact hpre k hk), foldl_add_zero]

open Flox.IntWidth in
theorem prod_exact_of_prefix_bound {w : Nat} (hw : 1 ≤ w) (xs : List Int)
    (hpre : ∀ k, k < xs.length → inS w (xs.take (k + 1)).prod) : accW (wrapS w) (· * ·) 1 xs = xs.prod :=
  by rw [IntWidth.accW_exact (wrapS w) (inS w) (fun _ hx => wrapS_of_inS hw hx) (· * ·) 1 xs
    (fun k hk => by rw [foldl_mul_one]; exact hpre k hk), foldl_mul_one]

open Flox.IntWidth in
/-- int8 accumulator on `[100, -100, 100, -100, 27]`: `Σ|x| = 427` is far beyond int8 but every prefix fits -/
example : accW (wrapS 8) (· + ·) 0 [100, -100, 100, -100, 27] = 27 :=
  sum_exact_of_prefix_bound (by decide) _ (by decide +kernel)

open Flox.IntWidth in
example : accW (wrapS 8) (· * ·) 1 [5, -5, 5, -1] = 125 := prod_exact_of_prefix_bound (by decide) _ (by decide +kernel)

open Flox.IntWidth in
/-- if `Σ|x_i| < 2^(w-1)` (what "the group total fits the result dtype" gives for data of one sign), then EVERY
    chunking of the members into blocks, every order of members / blocks (`t.leaves` is any permutation of `xs`) and
    every bracketing of the combine tree gives the exact sum – no step of any tree overflows, so again nothing is
    assumed about overflow (`wrapAcc` only has to leave `w`-bit values alone). -/
theorem sum_exact_of_abs_bound {w : Nat} (wrapIn wrapAcc : Int → Int) (hR : ∀ x, inS w x → wrapAcc x = x)
    (xs : List Int) (h : absSum xs < 2 ^ (w - 1)) (t : WTree) (hp : t.leaves.Perm xs) :
    chunkedAcc (· + ·) 0 true wrapIn wrapAcc t = xs.sum :=
  IntWidth.sum_exact_of_abs_bound hR xs h t hp

open Flox.IntWidth in
/-- sharpest form, using that two's complement is arithmetic modulo `2^w`: every engine / chunking / order / tree
    returns `wrapS w (exact total)`, so it suffices that the TOTAL is representable -/
theorem chunkedSum_eq_wrap_total (wIn wAcc : Nat) (t : WTree) :
    chunkedSum true wIn wAcc t = wrapS wAcc t.leaves.sum :=
  IntWidth.chunkedSum_eq_wrap wIn wAcc t

open Flox.IntWidth in
theorem sum_exact_of_total_bound {w : Nat} (hw : 1 ≤ w) (wIn : Nat) (xs : List Int) (h : inS w xs.sum) :
    engineSum true wIn w xs = xs.sum ∧ ∀ t : WTree, t.leaves.Perm xs → chunkedSum true wIn w t = xs.sum :=
  IntWidth.sum_exact_of_total_bound hw wIn xs h

open Flox.IntWidth in
/-- members `[100, 100, 27, -5]` in blocks `[27 | -5, 100 | (absent) | 100]` (reordered), tree `((b0 b1) (b2 b3))`,
    16-bit accumulator: `Σ|x| = 232 < 2^15` -/
example : chunkedAcc (· + ·) 0 true (wrapS 8) (wrapS 16)
      (.node (.cons (.node (.cons (.leaf [27]) (.one (.leaf [-5, 100]))))
        (.one (.node (.cons (.leaf []) (.one (.leaf [100]))))))) = [100, 100, 27, -5].sum :=
  sum_exact_of_abs_bound _ _ (fun _ hx => wrapS_of_inS (by decide) hx) [100, 100, 27, -5] (by decide +kernel) _
    (by decide +kernel)

open Flox.IntWidth in
/-- total `27` representable in int8 although `Σ|x| = 427` is not: still exact on every plan -/
example : engineSum true 8 8 [100, 100, -100, -100, 27] = 27 :=
  (sum_exact_of_total_bound (by decide) 8 [100, 100, -100, -100, 27] (by decide +kernel)).1

open Flox.IntWidth in
/-- inputs representable at `wIn ≤ wAcc`, every prefix sum representable at `wAcc` ⇒ the engine that converts before
    accumulating returns the exact sum (any overflow behaviour of the accumulator) -/
theorem cast_first_exact {wIn wAcc : Nat} (hle : wIn ≤ wAcc) (wrapIn wrapAcc : Int → Int)
    (hR : ∀ x, inS wAcc x → wrapAcc x = x) (xs : List Int) (hin : ∀ x ∈ xs, inS wIn x)
    (hpre : ∀ k, k < xs.length → inS wAcc (xs.take (k + 1)).sum) :
    engineAcc (· + ·) 0 true wrapIn wrapAcc xs = xs.sum :=
  by rw [engineAcc_castFirst_exact wrapIn wrapAcc (inS wAcc) hR (· + ·) 0 xs (fun x hx => inS_mono hle (hin x hx))
    (fun k hk => by rw [foldl_add_zero]; exact hpre k hk), foldl_add_zero]

open Flox.IntWidth in
theorem cast_first_prod_exact {wIn wAcc : Nat} (hle : wIn ≤ wAcc) (wrapIn wrapAcc : Int → Int)
    (hR : ∀ x, inS wAcc x → wrapAcc x = x) (xs : List Int) (hin : ∀ x ∈ xs, inS wIn x)
    (hpre : ∀ k, k < xs.length → inS wAcc (xs.take (k + 1)).prod) :
    engineAcc (· * ·) 1 true wrapIn wrapAcc xs = xs.prod :=
  by rw [engineAcc_castFirst_exact wrapIn wrapAcc (inS wAcc) hR (· * ·) 1 xs (fun x hx => inS_mono hle (hin x hx))
    (fun k hk => by rw [foldl_mul_one]; exact hpre k hk), foldl_mul_one]

open Flox.IntWidth in
/-- every plan: `Σ|x_i| < 2^(wAcc-1)` ⇒ the eager engine and every chunking / order / tree are exact (`wIn` is inert,
    see the head of this section) -/
theorem cast_first_exact_all_plans {wAcc : Nat} (hw : 1 ≤ wAcc) (wIn : Nat) (xs : List Int)
    (htot : absSum xs < 2 ^ (wAcc - 1)) :
    engineSum true wIn wAcc xs = xs.sum ∧ ∀ t : WTree, t.leaves.Perm xs → chunkedSum true wIn wAcc t = xs.sum :=
  IntWidth.cast_first_exact_all_plans hw wIn xs htot

open Flox.IntWidth in
/-- mirror for products: `Π|x_i| < 2^(wAcc-1)` -/
theorem cast_first_prod_exact_all_plans {wAcc : Nat} (hw : 2 ≤ wAcc) (wIn : Nat) (xs : List Int)
    (htot : absProd xs < 2 ^ (wAcc - 1)) :
    engineProd true wIn wAcc xs = xs.prod ∧ ∀ t : WTree, t.leaves.Perm xs → chunkedProd true wIn wAcc t = xs.prod :=
  IntWidth.cast_first_prod_exact_all_plans hw wIn xs htot

open Flox.IntWidth in
/-- unsigned mirrors (`uint8 → uint64`): total in `[0, 2^wAcc)` -/
theorem cast_first_exact_all_plans_unsigned (wIn wAcc : Nat) (xs : List Int) (h : inU wAcc xs.sum) :
    engineSumU true wIn wAcc xs = xs.sum ∧ ∀ t : WTree, t.leaves.Perm xs → chunkedSumU true wIn wAcc t = xs.sum :=
  IntWidth.sumU_exact_of_total_bound wIn wAcc xs h

open Flox.IntWidth in
theorem cast_first_prod_exact_all_plans_unsigned {wAcc : Nat} (hw : 1 ≤ wAcc) (wIn : Nat) (xs : List Int)
    (h : inU wAcc xs.prod) :
    engineProdU true wIn wAcc xs = xs.prod ∧
      ∀ t : WTree, t.leaves.Perm xs → chunkedProdU true wIn wAcc t = xs.prod :=
  IntWidth.cast_first_prodU_exact_all_plans hw wIn xs h

open Flox.IntWidth in
/-- int8 data `[120, 119, 120, -120, 60]` (total 299 > 127) accumulated at 64 bits -/
example : engineAcc (· + ·) 0 true (wrapS 8) (wrapS 64) [120, 119, 120, -120, 60] = 299 :=
  cast_first_exact (wIn := 8) (wAcc := 64) (by decide) _ _ (fun _ hx => wrapS_of_inS (by decide) hx) _
    (by decide +kernel) (by decide +kernel)

open Flox.IntWidth in
example : engineSum true 8 64 [120, 119, 120, -120, 60] = 299
    ∧ chunkedSum true 8 64 (.node (.cons (.leaf [120, 120]) (.cons (.leaf [60, -120]) (.one (.leaf [119]))))) = 299 :=
  have h := cast_first_exact_all_plans (wAcc := 64) (by decide) 8 [120, 119, 120, -120, 60] (by decide +kernel)
  ⟨h.1, h.2 _ (by decide +kernel)⟩

open Flox.IntWidth in
/-- int8 data `[7, 5, -3, 7]`: product `-735` -/
example : engineProd true 8 64 [7, 5, -3, 7] = -735
    ∧ chunkedProd true 8 64 (.node (.cons (.leaf [7]) (.one (.leaf [7, -3, 5])))) = -735 :=
  have h := cast_first_prod_exact_all_plans (wAcc := 64) (by decide) 8 [7, 5, -3, 7] (by decide +kernel)
  ⟨h.1, h.2 _ (by decide +kernel)⟩

open Flox.IntWidth in
example : engineAcc (· * ·) 1 true (wrapS 8) (wrapS 64) [7, 5, -3, 7] = -735 :=
  cast_first_prod_exact (wIn := 8) (wAcc := 64) (by decide) _ _ (fun _ hx => wrapS_of_inS (by decide) hx) _
    (by decide +kernel) (by decide +kernel)

open Flox.IntWidth in
/-- uint8 data `[200, 250, 255, 129]` at uint64 -/
example : engineSumU true 8 64 [200, 250, 255, 129] = 834 ∧ engineProdU true 8 64 [200, 250, 255, 129] = 1644750000 :=
  ⟨(cast_first_exact_all_plans_unsigned 8 64 _ (by decide +kernel)).1,
   (cast_first_prod_exact_all_plans_unsigned (by decide) 8 _ (by decide +kernel)).1⟩

open Flox.IntWidth in
/-- **the hypothesis `castFirst` is necessary** (the defect repaired in /repo a3da74f): numbagg before that commit
    accumulated int8 `[100, 100]` in int8 and cast the result: `-56` instead of `200`; uint8 `[200, 250, 255, 129]` ↦
    `66` instead of `834`; int8 product `7·5·5` ↦ `-81` instead of `175`. -/
theorem narrow_accumulation_counterexample :
    engineSum false 8 64 [100, 100] = -56 ∧ engineSum true 8 64 [100, 100] = 200 ∧
    engineSumU false 8 64 [200, 250, 255, 129] = 66 ∧ engineSumU true 8 64 [200, 250, 255, 129] = 834 ∧
    engineProd false 8 64 [7, 5, 5] = -81 ∧ engineProd true 8 64 [7, 5, 5] = 175 :=
  IntWidth.narrow_accumulation_counterexample

open Flox.IntWidth in
/-- … in the chunked pipeline (blocks `[100, 100 | 27]`): a wide combine cannot repair a block that wrapped -/
theorem narrow_accumulation_counterexample_chunked :
    chunkedSum false 8 64 (.node (.cons (.leaf [100, 100]) (.one (.leaf [27])))) = -29 ∧
    chunkedSum true 8 64 (.node (.cons (.leaf [100, 100]) (.one (.leaf [27])))) = 227 :=
  by decide +kernel

open Flox.IntWidth in
/-- engine "flox" before /repo 73517da squared int8 data in int8 (`100² ≡ 16`) before the wide accumulation -/
theorem narrow_square_counterexample :
    engineSumSq false (wrapS 8) (wrapS 64) [100, 3] = 25 ∧ engineSumSq true (wrapS 8) (wrapS 64) [100, 3] = 10009 :=
  by decide +kernel

/-! ### tie to the regenerated `_initialize_aggregation` table

  `rowAccDtypes f init` = the dtypes in which the row accumulates: `dtype["intermediate"]` of every sum / nansum /
  prod / nanprod / sum_of_squares / nansum_of_squares / nanlen (count) kernel, and `dtype["numpy"][0]` for the
  accumulating reductions.  `intBits? t = some (signed, bits)` for the integer dtypes.
  (`C11.intermediates_wide_enough` states the width part with `wide`; here also the count kernels and the signedness
  are checked on the table.) -/

open Flox.IntWidth Flox.Generated in
/-- **every integer accumulation dtype of the table is 64 bits wide** – for every reduction, every integer / bool input
    dtype, every fill, `min_count` and engine (no `dtype=`) -/
theorem table_accumulators_64bit (f : Func) (d : DType) (k : FillK) (mc e : Bool) (init : DInit)
    (hd : d = .bool ∨ d.isInt = true) (h : apiInit dtypeRowsOf f d .unset k mc e = some init) :
    ∀ t ∈ rowAccDtypes f init, ∀ s w, intBits? t = some (s, w) → w = 64 :=
  IntWidth.table_accumulators_64bit f d k mc e init hd h

open Flox.IntWidth Flox.Generated in
/-- **corollary**: in whichever integer dtype a row of the table accumulates, sums and products of integers are exact
    on the eager engines and for every chunking / order / tree as soon as `Σ|x_i| < 2^63` resp. `Π|x_i| < 2^63` (signed
    accumulators; more than "the total fits") or the total lies in `[0, 2^64)` (unsigned); `wIn` is inert -/
theorem table_sum_prod_exact (f : Func) (d : DType) (k : FillK) (mc e : Bool) (init : DInit)
    (hd : d = .bool ∨ d.isInt = true) (h : apiInit dtypeRowsOf f d .unset k mc e = some init)
    (t : DType) (ht : t ∈ rowAccDtypes f init) (wIn : Nat) (xs : List Int) :
    (∀ w, intBits? t = some (true, w) →
      (absSum xs < 2 ^ 63 →
        engineSum true wIn w xs = xs.sum ∧ ∀ tr : WTree, tr.leaves.Perm xs → chunkedSum true wIn w tr = xs.sum) ∧
      (absProd xs < 2 ^ 63 →
        engineProd true wIn w xs = xs.prod ∧ ∀ tr : WTree, tr.leaves.Perm xs → chunkedProd true wIn w tr = xs.prod)) ∧
    (∀ w, intBits? t = some (false, w) →
      (inU 64 xs.sum →
        engineSumU true wIn w xs = xs.sum ∧ ∀ tr : WTree, tr.leaves.Perm xs → chunkedSumU true wIn w tr = xs.sum) ∧
      (inU 64 xs.prod →
        engineProdU true wIn w xs = xs.prod ∧
          ∀ tr : WTree, tr.leaves.Perm xs → chunkedProdU true wIn w tr = xs.prod)) :=
  IntWidth.table_sum_prod_exact f d k mc e init hd h t ht wIn xs

open Flox.IntWidth Flox.Generated in
/-- the rows the harness stream exercises: int8 `nansum` (chunk kernel and eager kernel in int64), uint8 `prod`
    (uint64), int16 `count` (int64), int8 `nanvar` (float64 sums of squares: no integer accumulator at all) -/
example :
    (apiInit dtypeRowsOf .nansum .i8 .unset .unset false false).map (rowAccDtypes .nansum) = some [.i64, .i64]
    ∧ (apiInit dtypeRowsOf .prod .u8 .unset .zero true false).map (rowAccDtypes .prod) = some [.u64, .i64, .u64]
    ∧ (apiInit dtypeRowsOf .count .i16 .unset .unset false false).map (rowAccDtypes .count) = some [.i64]
    ∧ (apiInit dtypeRowsOf .nanvar .i8 .unset .unset false false).map (rowAccDtypes .nanvar) = some [.f64, .f64, .i64, .f64] := by
  decide +kernel

open Flox.IntWidth Flox.Generated in
/-- `table_sum_prod_exact` applied: int8 `nansum`, members `[120, 119, 120, -120, 60]` -/
example : engineSum true 8 64 [120, 119, 120, -120, 60] = 299 :=
  (((table_sum_prod_exact .nansum .i8 .unset false false
    { final := .i64, numpy := [.i64], inter := [("nansum", .i64)] } (Or.inr rfl) (by decide +kernel) .i64 (by decide +kernel) 8
    [120, 119, 120, -120, 60]).1 64 rfl).1 (by decide +kernel)).1

end Flox.C20
