/-
  C18 — grouped order statistics (median / nanmedian / quantile / nanquantile) match NumPy's
  linear-interpolation quantiles.

  Model:  `Quantile.engineFlox`  (= `aggregate_flox.quantile_` behind `_np_grouped_op`, engine="flox"),
          `Quantile.engineNpg`   (= `aggregate_npg.quantile` & co., engine="numpy"),
          `Quantile.runEager` / `runChunked` (the path through `groupby_reduce`).
  Spec:   `Quantile.Spec.quantile skipna q members` = `np.quantile` / `np.nanquantile` (method="linear").
  Hypotheses: `Quantile.NoInf` is defined in FloxProofs/Quantile.lean, `Quantile.reqQs` in FloxProofs/QuantileApi.lean.
-/
import FloxProofs.QuantileApi

namespace Flox.C18
open Flox.Quantile

/-- **engine flox, all four reductions — the full property at the level of one engine call**
    (`aggregate_flox.quantile` & co. behind `_np_grouped_op`, as `chunk_reduce` calls them).
    For every array of finite values and NaNs, any (unsorted) codes, any `q ∈ [0,1]`, either NaN policy and every
    slot `g`: the slot holds `np.quantile` (`skipna = false`: NaN as soon as one member is NaN) resp.
    `np.nanquantile` (`skipna = true`: NaN members dropped, NaN for an all-NaN group) of exactly the members of
    group `g`, and the fill when the group has no member. -/
theorem grouped_quantile_eq_spec (skipna : Bool) (q : Rat) (hq0 : 0 ≤ q) (hq1 : q ≤ 1) (codes : List Int)
    (vals : List Val) (hfin : NoInf vals) (size : Nat) (fill : Val) (g : Nat) (hg : g < size) :
    (engineFlox skipna q codes vals size fill)[g]? = (Spec.grouped skipna q codes vals size fill)[g]? :=
  congrArg (·[g]?) (engineFlox_eq_grouped skipna q hq0 hq1 codes vals hfin size fill)

/-- the same as an equation between whole result vectors -/
theorem engineFlox_eq_spec (skipna : Bool) (q : Rat) (hq0 : 0 ≤ q) (hq1 : q ≤ 1) (codes : List Int)
    (vals : List Val) (hfin : NoInf vals) (size : Nat) (fill : Val) :
    engineFlox skipna q codes vals size fill = Spec.grouped skipna q codes vals size fill :=
  engineFlox_eq_grouped skipna q hq0 hq1 codes vals hfin size fill

/-- NaN-propagating variants (`quantile`, `median`) -/
theorem quantile_eq_spec (q : Rat) (hq0 : 0 ≤ q) (hq1 : q ≤ 1) (codes : List Int) (vals : List Val)
    (hfin : NoInf vals) (size : Nat) (fill : Val) (g : Nat) (hg : g < size) :
    (engineFlox false q codes vals size fill)[g]? = (Spec.grouped false q codes vals size fill)[g]? :=
  grouped_quantile_eq_spec false q hq0 hq1 codes vals hfin size fill g hg

/-- NaN-skipping variants (`nanquantile`, `nanmedian`), all-NaN groups included (the all-NaN-group defect
    repaired in /repo 7ebd75b), no hypothesis on the group -/
theorem nanquantile_eq_spec (q : Rat) (hq0 : 0 ≤ q) (hq1 : q ≤ 1) (codes : List Int) (vals : List Val)
    (hfin : NoInf vals) (size : Nat) (fill : Val) (g : Nat) (hg : g < size) :
    (engineFlox true q codes vals size fill)[g]? = (Spec.grouped true q codes vals size fill)[g]? :=
  grouped_quantile_eq_spec true q hq0 hq1 codes vals hfin size fill g hg

/-- groups absent from the data get the fill, in both variants (no hypothesis on the values) -/
theorem absent_group_fill (skipna : Bool) (q : Rat) (codes : List Int) (vals : List Val) (size : Nat) (fill : Val)
    (g : Nat) (hg : g < size) (habs : members (Int.ofNat g) codes vals = []) :
    (engineFlox skipna q codes vals size fill)[g]? = some fill := by
  rw [engineFlox_eq, List.getElem?_map, List.getElem?_range hg, Option.map_some, if_pos habs]

/-- the input that showed the all-NaN-group defect repaired in /repo 7ebd75b: an all-NaN group between two
    groups gets NaN, as `np.nanmedian` gives -/
example :
    engineFlox true (1/2) [0, 0, 1, 1, 2, 2] [.fin 1, .fin 2, .nan, .nan, .fin 5, .fin 7] 3 .nan
        = [.fin (3/2), .nan, .fin 6]
      ∧ Spec.grouped true (1/2) [0, 0, 1, 1, 2, 2] [.fin 1, .fin 2, .nan, .nan, .fin 5, .fin 7] 3 .nan
        = [.fin (3/2), .nan, .fin 6] := by
  decide +kernel

/-- one slot per code, whatever the data -/
theorem result_length (skipna : Bool) (q : Rat) (codes : List Int) (vals : List Val) (size : Nat) (fill : Val) :
    (engineFlox skipna q codes vals size fill).length = size := by
  simp [engineFlox]

/-- engine="numpy": numpy_groupies hands every group's members to `np.quantile`/`np.nanquantile`
    (third-party contract written into the model) – the specification itself, all-NaN groups included -/
theorem npg_eq_spec (skipna : Bool) (q : Rat) (codes : List Int) (vals : List Val) (size : Nat) (fill : Val) :
    engineNpg skipna q codes vals size fill = Spec.grouped skipna q codes vals size fill := rfl

/-- `_lerp` between two finite bounds is exact linear interpolation (both branches, `t < 0.5` and `t ≥ 0.5`) -/
theorem lerp_exact (a b t : Rat) : lerp (Val.fin a) (Val.fin b) t = Val.fin (a + (b - a) * t) :=
  lerp_fin a b t

/-- `_lerp` returns the lower bound at `γ = 0` … -/
theorem lerp_at_zero (a b : Rat) : lerp (Val.fin a) (Val.fin b) 0 = Val.fin a := by
  rw [lerp_fin]
  congr 1
  grind

/-- … and a value between the bounds for `0 ≤ γ ≤ 1` -/
theorem lerp_within_bounds (a b t : Rat) (hab : a ≤ b) (h0 : 0 ≤ t) (h1 : t ≤ 1) :
    ∃ r, lerp (Val.fin a) (Val.fin b) t = Val.fin r ∧ a ≤ r ∧ r ≤ b := by
  refine ⟨a + (b - a) * t, lerp_fin a b t, ?_, ?_⟩
  · have h : 0 ≤ (b - a) * t := Rat.mul_nonneg (by grind) h0
    grind
  · have h : (b - a) * t ≤ (b - a) * 1 := Rat.mul_le_mul_of_nonneg_left h1 (by grind)
    grind

/-- the index arithmetic stays inside the group's zone: for `q ∈ [0,1]` and `n ≥ 1` valid members
    `0 ≤ ⌊q(n−1)⌋ ≤ ⌈q(n−1)⌉ ≤ n−1` -/
theorem virtual_index_in_range (q : Rat) (hq0 : 0 ≤ q) (hq1 : q ≤ 1) (n : Nat) (hn : 0 < n) :
    0 ≤ (q * (((n : Int) - 1 : Int) : Rat)).floor
      ∧ (q * (((n : Int) - 1 : Int) : Rat)).floor ≤ (q * (((n : Int) - 1 : Int) : Rat)).ceil
      ∧ (q * (((n : Int) - 1 : Int) : Rat)).ceil ≤ (n : Int) - 1 :=
  virtual_bounds q hq0 hq1 n hn

/-- **vector `q`: one leading axis more than for a scalar `q`, in the order given** — for every input, every
    label missing included (the defect repaired in /repo a8e0051).  The values for a vector are the concatenation
    (C order = leading axis) of the values for its entries. -/
theorem q_vector_axis (func : QFunc) (hf : func.isQuantile = true) (qs : List Rat) (labels : List Key)
    (rows : List (List Val)) (batch1d : Bool) :
    (runEager ⟨func, .flox, some (.vector qs)⟩ labels rows batch1d).shape
        = qs.length :: (runEager ⟨func, .flox, some (.scalar 0)⟩ labels rows batch1d).shape
      ∧ (runEager ⟨func, .flox, some (.vector qs)⟩ labels rows batch1d).vals
        = qs.flatMap fun q => (runEager ⟨func, .flox, some (.scalar q)⟩ labels rows batch1d).vals := by
  have hv : validate ⟨func, .flox, some (.vector qs)⟩ = .ok (qs, false) := by
    simp [validate, hf]
  have hs : ∀ q, validate ⟨func, .flox, some (.scalar q)⟩ = .ok ([q], true) := by
    intro q; simp [validate, hf]
  unfold runEager
  rw [hv]
  simp only [hs, assemble, QOutcome.shape, QOutcome.vals, List.length_cons, List.length_nil]
  refine ⟨by simp, ?_⟩
  apply range_flatMap_get
  intro i hi
  have h1 : List.range (0 + 1) = [0] := rfl
  rw [h1, List.flatMap_cons, List.flatMap_nil, List.append_nil, List.flatMap_map, List.flatMap_map]
  apply flatMap_congr
  intro row _
  rw [chunkQuantile_snd]
  simp [hi]

/-- every label missing (the defect repaired in /repo a8e0051): the empty result keeps the q axis -/
example :
    (runEager ⟨.nanquantile, .flox, some (.vector [1/4, 1/2])⟩ [none, none] [[.fin 1, .fin 2]] true).shape = [2, 0]
      ∧ (runEager ⟨.nanquantile, .flox, some (.scalar 0)⟩ [none, none] [[.fin 1, .fin 2]] true).shape = [0] := by
  decide +kernel

/-- **the eager call as a whole equals the specification** (engine flox): validation of `q`, factorisation of
    unsorted / missing labels, the NaN-label sentinel of `chunk_reduce`, every batch row, scalar and vector `q`,
    result shape and values.  `reqQs rq` are the levels asked for (`[1/2]` for the medians). -/
theorem eager_eq_spec (rq : QRequest) (heng : rq.eng = .flox) (hq : ∀ q ∈ reqQs rq, 0 ≤ q ∧ q ≤ 1)
    (labels : List Key) (rows : List (List Val)) (batch1d : Bool) (hfin : ∀ row ∈ rows, NoInf row) :
    runEager rq labels rows batch1d = specRun rq labels rows batch1d := by
  obtain ⟨func, eng, qa⟩ := rq
  simp only at heng
  subst heng
  unfold specRun
  cases hfq : func.isQuantile with
  | false =>
    rw [runEager_of_validate func qa labels rows batch1d hfin [(1 : Rat) / 2] true
      (by simpa [reqQs, hfq] using hq) (by simp [validate, hfq])]
    simp
  | true =>
    cases qa with
    | none => simp [runEager, validate, hfq]
    | some a =>
      cases a with
      | scalar q0 =>
        rw [runEager_of_validate func _ labels rows batch1d hfin [q0] true
          (by simpa [reqQs, hfq, QArg.toList] using hq) (by simp [validate, hfq])]
        simp
      | vector qs =>
        rw [runEager_of_validate func _ labels rows batch1d hfin qs false
          (by simpa [reqQs, hfq, QArg.toList] using hq) (by simp [validate, hfq])]
        simp

/-- **`chunk_reduce` without expected groups**, the call `runBlockwise` makes on every block: unless every key of
    the block is missing it returns the block's own labels, as `factorizeKeys … none true` finds them, and per `q`
    for every such label the NumPy quantile of that label's members inside the block.  How the blocks are cut,
    concatenated, checked for a group in two blocks and re-indexed (`runBlockwise`) is in the executable model
    and checked by correspondence only: no theorem speaks of it. -/
theorem blockwise_block_eq_spec (eng : Eng) (skipna : Bool) (qs : List Rat) (hq : ∀ q ∈ qs, 0 ≤ q ∧ q ≤ 1)
    (ks : List Key) (vs : List Val) (hfin : NoInf vs)
    (hne : (factorizeKeys ks none true).2.all (· == -1) = false) :
    chunkQuantile eng skipna qs ks vs none
      = ((factorizeKeys ks none true).1.map some,
         qs.map fun q => Spec.grouped skipna q (factorizeKeys ks none true).2 vs
                            (factorizeKeys ks none true).1.length Val.nan) := by
  rcases hX : factorizeKeys ks none true with ⟨found, codes⟩
  rw [hX] at hne
  simp only at hne
  simp only [chunkQuantile, hX, hne, Bool.false_eq_true, if_false, List.length_map]
  congr 1
  apply List.map_congr_left
  intro q hqm
  have := chunk_slots_eq_spec eng skipna q (hq q hqm).1 (hq q hqm).2 codes vs hfin found.length
  rw [hne] at this
  simpa using this

/-- **chunked input is computed only under the blockwise plan** (`_choose_method` + the check for aggregations
    without a chunk stage): blockwise is the only method ever chosen; any other explicit method is refused with
    `NotImplementedError`; without an explicit method the call is refused (`ValueError`) when the preference
    `pref` handed in is false.  `pref` is abstract here: in `runChunked` it is `prefersBlockwise`
    (`find_group_cohorts`' verdict), about which nothing is proved. -/
theorem chunked_only_blockwise (method : Option Method) (pref : Bool) :
    (∀ m, chooseMethod method pref = .ok m → m = .blockwise ∧ (method = some .blockwise ∨ (method = none ∧ pref = true)))
    ∧ (method = none → pref = false → chooseMethod method pref = .error "ValueError")
    ∧ (method = some .mapreduce ∨ method = some .cohorts → chooseMethod method pref = .error "NotImplementedError") := by
  cases method with
  | none => cases pref <;> simp [chooseMethod]
  | some m => cases m <;> simp [chooseMethod]

/-- when the plan is refused on `prefersBlockwise` of the caller's chunks, the chunked call returns that error
    and no values -/
theorem chunked_refused (rq : QRequest) (method : Option Method) (uc c : List Nat) (labels : List Key)
    (rows : List (List Val)) (b : Bool) (e : String)
    (h : chooseMethod method (prefersBlockwise uc (factorizeKeys labels none true).2) = .error e)
    (hv : ∃ x, validate rq = .ok x) :
    runChunked rq method uc c labels rows b = .err e := by
  obtain ⟨x, hx⟩ := hv
  unfold runChunked
  rw [hx]
  simp only
  rw [h]

/-! ### non-vacuity: the hypotheses are satisfiable on concrete, non-trivial inputs -/

-- unsorted codes, NaNs in two groups, an all-NaN group (1) between others, an absent group (4); q = 1/4
example : NoInf [.fin 4, .nan, .fin 1, .fin 7, .nan, .fin 2, .fin 5, .fin 3] := by
  intro v hv
  simp only [List.mem_cons, List.not_mem_nil, or_false] at hv
  rcases hv with h | h | h | h | h | h | h | h <;> subst h <;> simp
-- group 0 of that input has a valid member; no theorem asks for one (the all-NaN group 1 is covered alike)
example : finites (members 0 [2, 0, 0, 2, 1, 0, 2, 3] [.fin 4, .nan, .fin 1, .fin 7, .nan, .fin 2, .fin 5, .fin 3]) ≠ [] := by
  decide +kernel
example : engineFlox true (1/4) [2, 0, 0, 2, 1, 0, 2, 3] [.fin 4, .nan, .fin 1, .fin 7, .nan, .fin 2, .fin 5, .fin 3] 5 .nan
    = [.fin (5/4), .nan, .fin (9/2), .fin 3, .nan] := by decide +kernel
example : Spec.grouped true (1/4) [2, 0, 0, 2, 1, 0, 2, 3] [.fin 4, .nan, .fin 1, .fin 7, .nan, .fin 2, .fin 5, .fin 3] 5 .nan
    = [.fin (5/4), .nan, .fin (9/2), .fin 3, .nan] := by decide +kernel
example : engineFlox false (3/4) [1, 0, 1, 0, 1] [.fin 4, .fin 2, .fin 0, .nan, .fin 1] 2 .nan = [.nan, .fin (5/2)] := by
  decide +kernel
example : chooseMethod none true = .ok .blockwise := rfl
-- `eager_eq_spec` / `blockwise_block_eq_spec`: hypotheses hold on a request with unsorted and missing labels
example : ∀ q ∈ reqQs ⟨.nanquantile, .flox, some (.vector [3/4, 0])⟩, 0 ≤ q ∧ q ≤ 1 := by
  intro q hq; simp [reqQs, QFunc.isQuantile, QArg.toList] at hq; rcases hq with h | h <;> subst h <;> decide +kernel
example : runEager ⟨.nanquantile, .flox, some (.vector [3/4, 0])⟩ [some 5, none, some 2, some 5] [[.fin 1, .fin 9, .nan, .fin 3]] true
    = .ok { groups := [some 2, some 5], shape := [2, 2], vals := [.nan, .fin (5/2), .nan, .fin 1] } := by decide +kernel
example : (factorizeKeys [some 1, some (-1), some 1] none true).2.all (· == -1) = false := by decide +kernel
example : (runEager ⟨.nanquantile, .flox, some (.vector [3/4, 0])⟩ [some 5, some 2, some 5] [[.fin 1, .fin 2, .fin 3]] true).shape
    = [2, 2] := by decide +kernel

end Flox.C18
