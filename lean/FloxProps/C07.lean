/-
  C07 — multi-variable grouping and binning follow tuple-key and `pandas.cut` semantics.

  Model (FloxModel/MultiBin.lean): `binCode` (= `np.digitize(...) - 1` with the `within_bins` mask of
  `_factorize_single`), `binCodeIv` (the same plus the gap mask for a non-contiguous IntervalIndex), `ravelCode`
  (= `np.ravel_multi_index(mode="wrap")` with `-1` restored, `_ravel_factorized`), the flat grouped result
  `grouped k codes vals (shapeProd shape) fill` whose reshape to `grp_shape` puts flat slot `ravelWrap idx shape` at
  entry `idx`.
  Spec: `cutCode` (`pandas.cut`: position of the interval that contains the value, `-1` if none), `inInterval`,
  `tupleMembers` (the elements whose tuple of codes is exactly `idx`).
  The hypotheses `SortedIvs`, `InRange`, `ValidRow` are defined in FloxProofs/MultiBin.lean.
  The theorems are about the functions named above.  `convertExpected`, `factorizeSingle`, `factorizeEager`,
  `factorizeLazy` and `runMulti`, which call them, are in no theorem (two examples evaluate `factorizeEager` and
  `factorizeLazy`); they are tied to flox by the differential check.
-/
import FloxProofs.MultiBin

namespace Flox.C07

/-- For strictly increasing contiguous edges (at least one), every value – finite, on an edge, outside, NaN, ±inf – and
    both closed sides: the code flox computes is the `pandas.cut` code. -/
theorem binCode_eq_cut (edges : List Rat) (hne : edges ≠ []) (hs : edges.Pairwise (· < ·)) (closedRight : Bool) (x : Val) :
    binCode edges closedRight x = cutCode (intervalsOfBreaks edges) closedRight x :=
  Flox.binCode_eq_cut edges hs closedRight x

/-- what the `pandas.cut` code means (1): `-1` exactly when no interval contains the value … -/
theorem cutCode_eq_neg_one_iff (ivs : List (Rat × Rat)) (closedRight : Bool) (x : Val) :
    cutCode ivs closedRight x = -1 ↔ ∀ iv ∈ ivs, inInterval closedRight iv x = false :=
  findCode_eq_neg_one_iff _ ivs

/-- … (2) on contiguous increasing edges, code `i` exactly when the value lies in the `i`-th interval
    (`(eᵢ, eᵢ₊₁]` or `[eᵢ, eᵢ₊₁)`): the lowest edge is excluded when closed on the right, the highest when closed on
    the left. -/
theorem binCode_eq_iff_mem (edges : List Rat) (hs : edges.Pairwise (· < ·)) (closedRight : Bool) (x : Val)
    (i : Nat) (iv : Rat × Rat) (hi : (intervalsOfBreaks edges)[i]? = some iv) :
    binCode edges closedRight x = (i : Int) ↔ inInterval closedRight iv x = true := by
  rw [Flox.binCode_eq_cut edges hs]
  exact cutCode_eq_iff_mem _ (intervals_pairwise edges hs) closedRight x i iv hi

/-- every code is `-1` or the number of a bin -/
theorem binCode_range (edges : List Rat) (hne : edges ≠ []) (hs : edges.Pairwise (· < ·)) (closedRight : Bool) (x : Val) :
    -1 ≤ binCode edges closedRight x ∧ binCode edges closedRight x < ((intervalsOfBreaks edges).length : Int) :=
  Flox.binCode_eq_cut edges hs closedRight x ▸ findCode_range _ _

example : binCode [0, 1, 3] true (.fin 0) = -1 ∧ binCode [0, 1, 3] true (.fin 1) = 0 ∧ binCode [0, 1, 3] true (.fin 3) = 1
    ∧ binCode [0, 1, 3] false (.fin 0) = 0 ∧ binCode [0, 1, 3] false (.fin 1) = 1 ∧ binCode [0, 1, 3] false (.fin 3) = -1
    ∧ binCode [0, 1, 3] true .nan = -1 ∧ binCode [0, 1, 3] true .pinf = -1 ∧ binCode [0, 1, 3] false .ninf = -1 := by
  decide +kernel

example : ([0, 1, 3] : List Rat).Pairwise (· < ·) ∧ ([0, 1, 3] : List Rat) ≠ [] := by decide +kernel

/-- The same for ANY sorted, non-overlapping IntervalIndex (`l₀ < r₀ ≤ l₁ < r₁ ≤ …`), contiguous or with gaps: the code
    of `_factorize_single` (digitize against the left edges plus the last right edge, then the gap mask
    `flat > rights[idx]` / `flat >= rights[idx]`, finding C07-F2, repaired in /repo 02bdee3) is the `pandas.cut`
    code. -/
theorem binCodeIv_eq_cut (ivs : List (Rat × Rat)) (hne : ivs ≠ []) (hs : SortedIvs ivs) (closedRight : Bool) (x : Val) :
    binCodeIv ivs closedRight x = cutCode ivs closedRight x :=
  Flox.binCodeIv_eq_cut ivs hne hs closedRight x

/-- an IntervalIndex with a gap (`[0,1) ∪ [2,3)`, the witness of finding C07-F2): a value inside the gap is dropped,
    like pandas.cut; without the mask the digitize code alone would be 0 -/
example : SortedIvs [(0, 1), (2, 3)] ∧ binCodeIv [(0, 1), (2, 3)] false (.fin (3/2)) = -1
    ∧ cutCode [(0, 1), (2, 3)] false (.fin (3/2)) = -1 ∧ binCode (binsOf [(0, 1), (2, 3)]) false (.fin (3/2)) = 0
    ∧ binCodeIv [(0, 1), (2, 3)] false (.fin (1/2)) = 0 ∧ binCodeIv [(0, 1), (2, 3)] false (.fin 2) = 1
    ∧ binCodeIv [(0, 1), (2, 3)] true (.fin 1) = 0 ∧ binCodeIv [(0, 1), (2, 3)] true (.fin 2) = -1 := by
  refine ⟨⟨by decide +kernel, by decide +kernel, by show ((2 : Rat) < 3); decide +kernel⟩, ?_⟩
  decide +kernel

/-- codes within their shape survive ravel → unravel (the reshape of the flat group axis reads them back) -/
theorem ravel_unravel (codes : List Int) (shape : List Nat) (h : InRange codes shape) :
    unravel (ravelCode codes shape) shape = codes := by
  rw [ravelCode_of_inRange codes shape h]
  exact unravel_ravelWrap codes shape h

/-- the flat code is `-1` exactly when some grouper dropped the element (`-1` is restored after the wrap) -/
theorem ravel_eq_neg_one_iff (codes : List Int) (shape : List Nat) (h : ValidRow codes shape) :
    ravelCode codes shape = -1 ↔ ∃ c ∈ codes, c = -1 := by
  have hex : (∃ c ∈ codes, c = -1) ↔ codes.any (· == -1) = true := by simp
  rw [hex]
  cases hany : codes.any (· == -1) with
  | true => simp [ravelCode_of_dropped codes shape hany]
  | false =>
    have hin : InRange codes shape := (inRange_iff codes shape).mpr ⟨h, hany⟩
    have := (ravelWrap_bounds codes shape hin).1
    rw [ravelCode_of_inRange codes shape hin]
    simp only [Bool.false_eq_true, iff_false]
    omega

/-- a kept element's flat code is a valid slot of the flat group axis -/
theorem ravel_bounds (codes : List Int) (shape : List Nat) (h : InRange codes shape) :
    0 ≤ ravelCode codes shape ∧ ravelCode codes shape < (shapeProd shape : Int) := by
  rw [ravelCode_of_inRange codes shape h]
  exact ravelWrap_bounds codes shape h

theorem ravel_injective (a b : List Int) (shape : List Nat) (ha : InRange a shape) (hb : InRange b shape)
    (h : ravelCode a shape = ravelCode b shape) : a = b := by
  rw [ravelCode_of_inRange a shape ha, ravelCode_of_inRange b shape hb] at h
  exact ravelWrap_injective a b shape ha hb h

example : InRange [1, 0, 2] [2, 1, 3] ∧ ValidRow [1, -1, 2] [2, 1, 3] ∧ ravelCode [1, 0, 2] [2, 1, 3] = 5
    ∧ ravelCode [1, -1, 2] [2, 1, 3] = -1 ∧ unravel 5 [2, 1, 3] = [1, 0, 2] := by
  refine ⟨⟨by decide, by decide, by decide, by decide, by decide, by decide, trivial⟩,
          ⟨by decide, by decide, by decide, by decide, by decide, by decide, trivial⟩, ?_, ?_, ?_⟩ <;> decide +kernel

/-- For code tuples of any width: in the flat result of the grouped kernel over the ravelled codes, slot `ravel idx`
    (entry `idx = (i, j, …)` once the flat group axis is reshaped to `grp_shape`) is the reduction of exactly the
    elements whose code tuple is `idx`, in original order; the fill if there is none.  A tuple with a `-1` anywhere
    equals no in-range `idx`. -/
theorem multi_eq_tuple_spec (k : Kernel) (rows : List (List Int)) (vals : List Val) (shape : List Nat) (fill : Val)
    (idx : List Int) (hidx : InRange idx shape) (hrows : ∀ r ∈ rows, ValidRow r shape) :
    (grouped k (rows.map (ravelCode · shape)) vals (shapeProd shape) fill)[(ravelWrap idx shape).toNat]? =
      some (if (tupleMembers idx rows vals).isEmpty then fill else kEval k (tupleMembers idx rows vals)) := by
  rw [grouped_getElem?_ravelWrap k _ vals shape fill idx hidx,
    members_ravel_eq_tupleMembers idx shape hidx rows vals hrows]

/-- the whole result at once: the flat group axis, read in C order, lists the entries of all index tuples -/
theorem multi_eq_tuple_spec_all (k : Kernel) (rows : List (List Int)) (vals : List Val) (shape : List Nat) (fill : Val)
    (hrows : ∀ r ∈ rows, ValidRow r shape) :
    grouped k (rows.map (ravelCode · shape)) vals (shapeProd shape) fill =
      (allIndices shape).map fun idx =>
        if (tupleMembers idx rows vals).isEmpty then fill else kEval k (tupleMembers idx rows vals) := by
  rw [grouped_eq_map_allIndices]
  exact List.map_congr_left fun idx hidx => by
    rw [members_ravel_eq_tupleMembers idx shape (allIndices_inRange shape idx hidx) rows vals hrows]

/-- an element is dropped if any of its labels is missing or unrequested -/
theorem dropped_if_any_missing (idx r : List Int) (shape : List Nat) (hidx : InRange idx shape) (hr : (-1 : Int) ∈ r)
    (rows : List (List Int)) (v : Val) (vals : List Val) :
    tupleMembers idx (r :: rows) (v :: vals) = tupleMembers idx rows vals := by
  have hne : r ≠ idx := by
    rintro rfl
    have := ((inRange_iff r shape).mp hidx).2
    simp only [List.any_eq_false, beq_iff_eq] at this
    exact this _ hr rfl
  simp [tupleMembers, hne]

example : grouped .sum ([[0, 1], [1, 0], [0, 1], [-1, 1], [1, -1]].map (ravelCode · [2, 2]))
    [.fin 1, .fin 2, .fin 4, .fin 8, .fin 16] (shapeProd [2, 2]) (.fin (-7)) = [.fin (-7), .fin 5, .fin 2, .fin (-7)] := by
  decide +kernel

/-- flox factorizes every grouper in its own shape and lets `np.ravel_multi_index` broadcast the codes; for a binned
    grouper (codes are computed element by element) that equals broadcasting the labels to the common shape first and
    taking the code of every broadcast label – i.e. the tuple of labels of an element of the broadcast arrays. -/
theorem broadcast_commutes (bins : List Rat) (right : Bool) (shp target : List Nat) (labels : List Val) :
    bcast shp target (labels.map (binCode bins right)) = (bcast shp target labels).map (binCode bins right) :=
  bcast_map (binCode bins right) shp target labels

example : bcast [2, 1] [2, 3] [10, 20] = [10, 10, 10, 20, 20, 20] ∧ bcast [1, 3] [2, 3] [1, 2, 3] = [1, 2, 3, 1, 2, 3] := by
  decide

/-- `factorizeLabels` (`_factorize_single` for one categorical grouper) with requested groups: the codes of the blocks
    of any chunking that covers the labels, concatenated, are the codes of the whole list – the code of a label does
    not depend on its block.  (`_factorize_multiple` with dask labels factorizes block by block.) -/
theorem lazy_eq_eager_expected (labels : List Key) (ex : List Rat) (sort : Bool) (chunks : List Nat)
    (h : labels.length ≤ chunks.sum) :
    ((splitBy chunks labels).map fun blk => (factorizeLabels blk (some ex) sort).2).flatten
      = (factorizeLabels labels (some ex) sort).2 := by
  have hblk : ∀ blk ∈ splitBy chunks labels, (factorizeLabels blk (some ex) sort).2
      = blk.map (Grp.codeOf (factorizeLabels labels (some ex) sort).1) :=
    fun blk _ => factorizeLabels_codes blk (some ex) sort
  rw [List.map_congr_left hblk, ← splitBy_map, splitBy_flatten chunks _ (by simpa using h), ← factorizeLabels_codes]

/-- The same when every block is given the groups found in the whole list (`pd.unique` with NaN dropped, sorted when
    `sort`: what `_factorize_multiple` passes on; finding C07-F1, repaired in /repo dbfd325): the block codes,
    concatenated, are the codes `factorizeLabels` finds for the whole list without requested groups. -/
theorem lazy_eq_eager_cat (labels : List Key) (sort : Bool) (chunks : List Nat) (h : labels.length ≤ chunks.sum) :
    ((splitBy chunks labels).map fun blk =>
        (factorizeLabels blk (some (factorizeLabels labels none sort).1) sort).2).flatten
      = (factorizeLabels labels none sort).2 :=
  (lazy_eq_eager_expected labels _ sort chunks h).trans (congrArg Prod.snd (factorizeLabels_found labels sort))

/-- the witness of finding C07-F1 (labels `[3,3,5,5]` in blocks of 2 next to a dask grouper): `factorizeLazy` and
    `factorizeEager` return the same codes (with `sort=False`: the kernel cannot evaluate `List.mergeSort`) -/
example :
    (factorizeLazy [2, 2] [[.fin 0, .fin 0, .fin 0, .fin 0], [.fin 3, .fin 3, .fin 5, .fin 5]] [.cat [0], .none] false).toOption.map (·.codes)
      = some [0, 0, 1, 1] ∧
    (factorizeEager [([4], [.fin 0, .fin 0, .fin 0, .fin 0]), ([4], [.fin 3, .fin 3, .fin 5, .fin 5])] [.cat [0], .none] false).toOption.map (·.codes)
      = some [0, 0, 1, 1] := by
  decide +kernel

/-- a grouper without any group next to another one (finding C07-F3, repaired in /repo 1e4ff23): every element is
    dropped, no error -/
example :
    (factorizeEager [([2], [.nan, .nan]), ([2], [.fin 0, .fin 1])] [.none, .none] true).toOption.map (fun f => (f.shape, f.codes))
      = some ([0, 2], [-1, -1]) := by
  decide +kernel

/-- `binCode` is applied element by element: binning block by block is binning the whole array -/
theorem lazy_binned_blockwise (bins : List Rat) (right : Bool) (b₁ b₂ : List Val) :
    (b₁ ++ b₂).map (binCode bins right) = b₁.map (binCode bins right) ++ b₂.map (binCode bins right) :=
  List.map_append

end Flox.C07
