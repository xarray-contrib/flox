/-
  C11 — result dtype, shape and chunk metadata are plan-independent and truthful.

  What is modelled (`apiDtype` of FloxModel/Dtype.lean on the regenerated table FloxModel/Generated/Dtypes.lean;
  `model`, `spec`, `modelDtype`, `wide`, `sumLike`, `accumulates`, `blockEmpty` are defined in FloxProofs/Dtype.lean):
    `model f d u k mc e`  = dtype of the result of `groupby_reduce(func=f, array of dtype d, dtype=u, fill_value=k)`
                            with a resolved `min_count > 0` iff `mc`, `engine == "flox"` iff `e` (entry logic of
                            groupby_reduce written by hand, `_initialize_aggregation` tabulated from /repo);
  what is specified (no flox internals):
    `spec f d u k`        = NumPy's convention (`npConvention`): `dtype=` if given, else the reduction's NumPy default
                            (`npBase`), widened by `np.result_type` to hold the fill.
  The grid Func(31) × DType(13 inputs) × UserD(4) × FillK(5) × Bool × Bool is the property's quantifier over dtypes:
  the theorems are for ALL its cells.  The model has no plan / strategy / chunking argument at all: every plan ends in
  `astype(agg.dtype["final"])` (`_finalize_results`, called by `_reduce_blockwise` and `_aggregate`) – that each real
  plan honours it is OBSERVED by the harness (every cell × engine × {eager, map-reduce, cohorts, blockwise}).
  Chunk metadata: structural theorems on the pipeline model, for all label lists and chunkings.
-/
import FloxProofs.Dtype
import FloxProofs.Finish
import FloxProofs.TreeReduce

namespace Flox.C11
open Flox Flox.Generated Flox.DtypeProofs

/-! ## the spec's NumPy conventions are NumPy's (tie 2, tables generated from NumPy itself) -/

/-- `weakPromote` is `np.result_type(dtype, python scalar)` -/
theorem weakPromote_is_numpy : ∀ r ∈ npWeak, weakPromote r.1 r.2.1 = r.2.2 := by decide +kernel

/-- wherever NumPy itself performs the reduction (`np.sum(a).dtype`, …), the spec's default dtype is NumPy's -/
theorem npBase_is_numpy : ∀ r ∈ npReduce, ∀ t, r.2.2 = some t → npBase r.1 r.2.1 = t := by decide +kernel

/-- `minScalar` is `np.min_scalar_type` on the integer fills of the grid (`range?` against `np.iinfo`:
    `DtypeProofs.range_eq_numpy`) -/
theorem minScalar_is_numpy : ∀ r ∈ npMinScalar, r.1.int?.map minScalar = some r.2 := by decide +kernel

example : npBase .sum .u8 = .u64 ∧ npBase .mean .f32 = .f32 ∧ npBase .mean .i8 = .f64 ∧ npBase .argmax .f32 = .i64 ∧
    npBase .max_ .i16 = .i16 ∧ npBase .quantile .f32 = .f64 := by decide

/-! ## result dtype = NumPy's convention -/

/- FULL STATEMENT demanded by the property (inside `inDomain` it fails for the bool input of `mode` / `nanmode`, see
   `boolMode_counterexample`):
     ∀ f d u k mc e r, inDomain f d u k → model f d u k mc e = .ok r → spec f d u (effFill f k mc) = some r        -/

/-- **Result dtype follows NumPy's conventions** on the cells inside `inDomain`, outside the recorded deviation
    (`knownDeviation` = `boolModeDeviation`: the bool input of `mode` / `nanmode` is left as int64; `mode` cannot be
    run in this environment, so the cell is visible in the table only): whenever the call returns, its dtype is the
    requested dtype, else the reduction's NumPy default, widened by `np.result_type` to hold the fill — for every
    reduction, input dtype, `dtype=`, fill, `min_count` and engine that `inDomain` admits.  `inDomain` is not
    everything NumPy has a convention for: datetime-like input of any / all / sum / quantile / arg-reductions is
    outside it, and nothing is stated there (arg-reductions of datetime-like input return the datetime dtype where
    NumPy returns int64).  (Finding C11-F2, repaired in /repo d4708ca, was a second deviation: bool input of
    min/max/first/last was cast back to bool whatever `dtype=` / `fill_value=` asked for; see
    `boolSelect_follows_convention`.) -/
theorem finalDtype_eq_convention_partial (f : Func) (d : DType) (u : UserD) (k : FillK) (mc e : Bool) (r : DType)
    (hdom : inDomain f d u k = true) (hdev : knownDeviation f d u k = false)
    (h : model f d u k mc e = .ok r) : spec f d u (effFill f k mc) = some r := by
  have harg : argFloatRefused f u = false := by
    cases ha : argFloatRefused f u
    · rfl
    · simp [model, apiDtype_eq, ha] at h
  obtain ⟨t, ht, hs⟩ := model_convention mc e hdom harg
  rw [h, Except.ok.injEq] at ht
  rw [hdev] at hs
  exact ht ▸ hs.resolve_left Bool.false_ne_true

/-- the same statement for everything but `mode` / `nanmode`, without any deviation hypothesis -/
theorem finalDtype_eq_convention (f : Func) (d : DType) (u : UserD) (k : FillK) (mc e : Bool) (r : DType)
    (hdom : inDomain f d u k = true) (hf : f ≠ .mode ∧ f ≠ .nanmode)
    (h : model f d u k mc e = .ok r) : spec f d u (effFill f k mc) = some r := by
  apply finalDtype_eq_convention_partial f d u k mc e r hdom _ h
  simp [knownDeviation, boolModeDeviation, hf.1, hf.2]

/-- inside `inDomain` the modelled dtype logic refuses one kind of call only: an arg-reduction with a floating `dtype=`
    (`ValueError("arg-reductions return integer positions")`).  Not modelled: the `NotImplementedError`s of
    `groupby_reduce` for arg-reductions with `engine="flox"` and for numbagg with a `dtype=`, and refusals of the
    kernels at run time. -/
theorem finalDtype_defined (f : Func) (d : DType) (u : UserD) (k : FillK) (mc e : Bool)
    (hdom : inDomain f d u k = true) (harg : argFloatRefused f u = false) : ∃ r, model f d u k mc e = .ok r := by
  obtain ⟨t, ht, -⟩ := model_convention mc e hdom harg
  exact ⟨t, ht⟩

/-- …and that refusal does happen, whatever the other arguments -/
theorem argFloat_refused (f : Func) (d : DType) (u : UserD) (k : FillK) (mc e : Bool)
    (harg : argFloatRefused f u = true) : model f d u k mc e = .error "ValueError" := by
  simp [model, apiDtype_eq, harg]

/-- the hypotheses are satisfiable and the conclusion is informative -/
example : inDomain .nansum .u8 .unset .neg = true ∧ knownDeviation .nansum .u8 .unset .neg = false ∧
    modelDtype .nansum .u8 .unset .neg false false = some .f64 ∧ spec .nansum .u8 .unset .neg = some .f64 := by decide +kernel
example : modelDtype .max_ .i8 .unset .big false true = some .i64 ∧ modelDtype .nanmean .i16 .f32 .unset true false = some .f32 ∧
    modelDtype .count .M8 .unset .unset false false = some .i64 ∧ modelDtype .first .m8 .unset .unset false false = some .m8 := by
  decide +kernel

/-- the cells of finding C11-F2 (repaired in /repo d4708ca): min / max / first / last of a bool array widen like every
    other input — bool without `dtype=` / fill, int64 for an integer fill, float64 for NaN, the requested dtype
    otherwise -/
theorem boolSelect_follows_convention :
    modelDtype .max_ .bool .unset .unset false false = some .bool ∧
    modelDtype .max_ .bool .unset .nan false false = some .f64 ∧ spec .max_ .bool .unset .nan = some .f64 ∧
    modelDtype .nanfirst .bool .unset .neg false false = some .i64 ∧ spec .nanfirst .bool .unset .neg = some .i64 ∧
    modelDtype .min_ .bool .f32 .zero true false = some .f32 ∧ spec .min_ .bool .f32 .zero = some .f32 := by decide +kernel

/-- necessity of `knownDeviation`: `mode` of a bool array is int64, not the input dtype -/
theorem boolMode_counterexample :
    modelDtype .mode .bool .unset .unset false false = some .i64 ∧ spec .mode .bool .unset .unset = some .bool := by
  decide +kernel

/-! ## engine / plan / min_count independence -/

/-- **the dtype logic has no engine column**: `engine="flox"` takes a different branch at entry (count on datetimes is
    not viewed as int64) but neither the result dtype nor the dtypes handed to the kernels change.
    (Plan / strategy / chunking are not even arguments of `model`: see the header.) -/
theorem dtype_engine_plan_independent (f : Func) (d : DType) (u : UserD) (k : FillK) (mc : Bool) :
    model f d u k mc true = model f d u k mc false ∧
    apiInit dtypeRowsOf f d u k mc true = apiInit dtypeRowsOf f d u k mc false :=
  engine_independent f d u k mc

/-- with the fill that a positive `min_count` resolves to (`effFill`: NaN for nansum / nanprod without `fill_value`),
    `min_count` does not change the dtype.  The first alternative holds in every cell; the second is never needed. -/
theorem dtype_minCount_independent (f : Func) (d : DType) (u : UserD) (k : FillK) (e : Bool) :
    modelDtype f d u (effFill f k true) true e = modelDtype f d u (effFill f k true) false e ∨
    ((f = .nansum ∨ f = .nanprod) ∧ k = .unset ∧
      modelDtype f d u .unset true e = modelDtype f d u .nan true e) := by
  refine .inl (modelDtype_minCount f d u _ e fun hc => ?_)
  have hk := hc.2
  rcases hc.1 with rfl | rfl <;> cases k <;> simp [effFill] at hk

theorem minCount_counterexample :
    modelDtype .nansum .i8 .unset .unset true false = some .f64 ∧
    modelDtype .nansum .i8 .unset .unset false false = some .i64 := by decide +kernel

/-! ## accumulation width -/

/-- **integer (or bool) input, no `dtype=`**: every sum-like intermediate (sum, nansum, prod, nanprod, sum of squares)
    of every reduction is 64 bits wide, and for the accumulating reductions (sum, prod, mean, var, std, median,
    quantile) the dtype handed to the eager kernel IS the final dtype, itself 64 bits wide — never the narrower input
    dtype. -/
theorem intermediates_wide_enough (f : Func) (d : DType) (k : FillK) (mc e : Bool) (init : DInit)
    (hd : d = .bool ∨ d.isInt = true)
    (h : apiInit dtypeRowsOf f d .unset k mc e = some init) :
    (∀ p ∈ init.inter, sumLike p.1 = true → wide p.2 = true) ∧
    (accumulates f = true → wide init.final = true ∧ init.numpy.head? = some init.final) := by
  exact wideOk_iff.mp ((init_ok f (ne_obj_of_int hd) .unset k mc h).1 (by simp [widthAsked, intInput_of hd]))

example : apiInit dtypeRowsOf .nanvar .i8 .unset .unset false false =
    some { final := .f64, numpy := [.f64], inter := [("nansum_of_squares", .f64), ("nansum", .f64), ("nanlen", .i64)] } := by
  decide +kernel

/-- integer (or bool) input with a requested `dtype=` (stated with the engine flag off; `dtype_engine_plan_independent`
    carries it over): the accumulators of sum / prod / mean / var / std use that (final) dtype or a 64-bit one -/
theorem intermediates_follow_requested_dtype (f : Func) (d : DType) (u : UserD) (k : FillK) (mc : Bool) (init : DInit)
    (hd : d = .bool ∨ d.isInt = true) (hu : u ≠ .unset)
    (hf : f.family = .additive ∨ f.family = .floating)
    (h : apiInit dtypeRowsOf f d u k mc false = some init) :
    ∀ p ∈ init.inter, sumLike p.1 = true → (p.2 = init.final ∨ wide p.2 = true) := by
  have hc := (init_ok f (ne_obj_of_int hd) u k mc h).1
    (by rcases hf with hf | hf <;> simp [widthAsked, intInput_of hd, hf])
  rw [if_neg (by simpa using hu)] at hc
  exact wideUserOk_iff.mp hc

/-- the final `reindex_` of `groupby_reduce` promotes through `maybe_promote` when the fill is NaN: on a dtype already
    widened for NaN this is the identity, so absent labels cannot change the dtype after the fact (stated for input
    dtypes other than object and the datetime-like ones) -/
theorem final_reindex_keeps_dtype (f : Func) (d : DType) (u : UserD) (mc : Bool) (init : DInit)
    (hd : d ≠ .obj) (hdt : d.isDatetimeLike = false)
    (h : apiInit dtypeRowsOf f d u .nan mc false = some init) :
    (floxMaybePromote.find? fun r => r.1 == init.final).map (·.2) = some init.final :=
  eq_of_beq ((init_ok f hd u .nan mc h).2 (by simp [reindexAsked, hdt]))

/-! ## chunks along the group axis: announced = computed -/

/-- map-reduce with combine-time reindexing (`reindex.blockwise = False`, expected groups given): the aggregate step
    returns exactly the announced `expected_groups`, whatever the intermediates -/
theorem announced_groups_eq_computed_reindexed (R : Resolved) (x : Inter) (ex gs : List Key) (vs : List Val)
    (h : finalizeResults R x (some ex) false = .ok (gs, vs)) : gs = ex := by
  unfold finalizeResults at h
  simp only at h
  split at h
  · cases h
  · split at h
    · cases h; rfl
    · cases h

/-- hence the announced chunk sizes `(len(expected_groups),)` are the computed ones -/
theorem announced_chunks_mapreduce (R : Resolved) (x : Inter) (n : Nat) (gs : List Key) (vs : List Val)
    (h : finalizeResults R x (some (rangeKeys n)) false = .ok (gs, vs)) : [gs.length] = announcedMapReduce n := by
  rw [announced_groups_eq_computed_reindexed R x _ gs vs h]
  simp [announcedMapReduce, rangeKeys]

/-- `…_partial`: with blocks reindexed up front (`reindex.blockwise=True`, simple combine) the aggregate returns the
    groups carried by the intermediates; that these are `expected_groups` is part of the value proofs of C02 (dense
    map-reduce).  Full statement: `gs = ex`. -/
theorem announced_groups_eq_computed_kept_partial (R : Resolved) (x : Inter) (ex : Option (List Key)) (gs : List Key)
    (vs : List Val) (h : finalizeResults R x ex true = .ok (gs, vs)) : gs = x.groups :=
  finalizeResults_groups_kept R x ex gs vs h

/-- **blockwise** without reindexing: for every chunking and label list, the chunk sizes announced along the group axis
    (distinct labels per input block) are the numbers of groups the blocks really return, provided every block holds a
    labelled element (a block without any makes `chunk_reduce` return one NaN group) -/
theorem announced_chunks_blockwise (eng : Eng) (ks : List Kernel) (fills : List Val) (sort : Bool)
    (chunks : List Nat) (keys : List Key) (vals : List Val)
    (hne : ∀ kb ∈ splitBy chunks keys, blockEmpty kb sort = false) :
    computedBlockwise eng ks fills sort chunks keys vals = announcedBlockwise sort chunks keys := by
  unfold computedBlockwise announcedBlockwise
  have hl : (splitBy chunks keys).length ≤ (splitBy chunks vals).length := by simp [splitBy_length]
  calc ((splitBy chunks keys).zip (splitBy chunks vals)).map (fun x => (chunkReduce eng ks fills x.1 x.2 none sort).groups.length)
      = ((splitBy chunks keys).zip (splitBy chunks vals)).map
          ((fun kb => (if sort then uniqSorted (presentKeys kb) else uniqFirst (presentKeys kb)).length) ∘ Prod.fst) := by
        apply List.map_congr_left
        intro p hp
        have hmem : p.1 ∈ splitBy chunks keys := (List.of_mem_zip hp).1
        rw [chunkReduce_groups_none, hne p.1 hmem]
        simp
    _ = (((splitBy chunks keys).zip (splitBy chunks vals)).map Prod.fst).map
          (fun kb => (if sort then uniqSorted (presentKeys kb) else uniqFirst (presentKeys kb)).length) := by
        rw [List.map_map]
    _ = _ := by rw [List.map_fst_zip hl]

example : announcedBlockwise true [2, 3, 1] [some 0, some 0, some 1, some 2, some 1, some 2] = [1, 2, 1] ∧
    computedBlockwise .npg [.sum] [Val.fin 0] true [2, 3, 1] [some 0, some 0, some 1, some 2, some 1, some 2]
      [Val.fin 1, Val.fin 2, Val.fin 3, Val.fin 4, Val.fin 5, Val.fin 6] = [1, 2, 1] := by decide +kernel

/-- necessity of the hypothesis: a block without any labelled element is announced with 0 groups but returns one
    (NaN) -/
theorem blockwise_empty_block_counterexample :
    announcedBlockwise true [1, 1] [some 0, none] = [1, 0] ∧
    computedBlockwise .npg [.sum] [Val.fin 0] true [1, 1] [some 0, none] [Val.fin 1, Val.fin 2] = [1, 1] := by
  decide +kernel

end Flox.C11
