/-
  C15 — `flox.xarray.xarray_reduce` agrees with xarray's own groupby: dimension order, coordinates, the reduction that
  is applied (skipna).  PARTIAL: values, attrs and xarray's internals (`apply_ufunc`, `broadcast`, `concat`) are not
  modelled; they are compared by execution in harness/props_xarray.py against native xarray with flox disabled.

  Model : `Flox.XDims.varDims` / `coordsOut` / `resolveFunc` (FloxModel/XDims.lean) – the dimension bookkeeping of
          xarray_reduce, bug for bug: grouper_dims, dim_tuple, broadcast, the plain-reduction shortcut, missing_dim
          pass-through, apply_ufunc's `broadcast dims ++ output core dims`, `<name>_bins`, and `_restore_dim_order`
          as a stable sort by `lookup_order`.
  Spec  : `nativeVarDims` / `nativeCoords` – the rule of `obj.groupby(...).<func>(dim=…)` (same file, last section).
  The hypothesis `Supported` of the dims theorem is defined in FloxProofs/XDims.lean.
  The theorems hold for every dims list (no size bound; induction over the lists).
-/
import FloxProofs.XDims
import FloxModel.Generated.XSkipna

namespace Flox.C15
open Flox.XDims

/-- `_restore_dim_order` on a DataArray grouped by ONE 1-D, un-binned grouper along `d`: whatever the order of the
    object's dims `v` and whatever other dims `t` are reduced, the group dim takes exactly the place of `d` -/
theorem group_dim_takes_place_of_grouper_dim (v t : List Dim) (g d : Dim) (bn : String) (hv : v.Nodup) (hd : d ∈ v) (hdt : d ∈ t)
    (hg : g ∈ v → g = d) :
    restore (v.filter (· ∉ t) ++ [g]) v ⟨g, [d], false, bn⟩ false =
      v.filterMap (fun x => if x = d then some g else if x ∈ t then none else some x) := by
  have h := sort_filterMap v hv (fun x => if x = d then some g else if x ∈ t then none else some x)
    (lookupKey v g [d] false) ?_ none none (by simp) (by simp) (v.filter (· ∉ t) ++ [g]) ?_
  · simpa [restore] using h
  · intro x hx y hy
    split at hy
    · rename_i hxd
      subst hxd
      obtain rfl := Option.some.inj hy
      exact lookupKey_group_da v g x hd
    · rename_i hxd
      split at hy
      · cases hy
      · obtain rfl := Option.some.inj hy
        rw [lookupKey_of_not_renamed v g [d] false x (fun h => hxd (h.1.trans (hg (h.1 ▸ hx)))), if_pos hx]
  · -- `v = l1 ++ d :: l2`: both sides keep the unreduced dims of `l1` and `l2`, and `g` comes for `d`
    obtain ⟨l1, l2, rfl⟩ := List.append_of_mem hd
    have hnd := List.nodup_append.1 hv
    have e : ∀ l : List Dim, d ∉ l →
        l.filterMap (fun x => if x = d then some g else if x ∈ t then none else some x) = l.filter (· ∉ t) := by
      intro l hl
      induction l with
      | nil => rfl
      | cons a as ih =>
        have ha : a ≠ d := fun h => hl (h ▸ List.mem_cons_self)
        by_cases hat : a ∈ t <;> simp [ha, hat, ih fun h => hl (List.mem_cons_of_mem _ h)]
    -- with `F := filter (· ∉ t)`: the left side is `F l1 ++ (F l2 ++ [g])` (`d ∈ t` is filtered out), the right side
    -- `F l1 ++ g :: F l2` (`d` becomes `g`, and `e` on `l1`, `l2`)
    simp only [Option.toList_none, List.nil_append, List.append_nil, List.filterMap_append, List.filterMap_cons, if_true,
      List.filter_append, List.filter_cons, hdt, e l1 (fun h => hnd.2.2 d h d List.mem_cons_self rfl),
      e l2 (List.nodup_cons.1 hnd.2.1).1, decide_not, decide_true, Bool.not_true, Bool.false_eq_true, if_false,
      List.append_assoc]
    exact List.perm_append_comm.append_left _

example : restore (["a", "b", "c"].filter (· ∉ ["b"]) ++ ["lab"]) ["a", "b", "c"] ⟨"lab", ["b"], false, "lab_bins"⟩ false
    = ["a", "lab", "c"] := by decide +kernel

/-- inside a Dataset the group dim of a 1-D un-binned grouper comes first (`no_groupby_reorder`), as with native
    `concat` -/
theorem group_dim_first_in_dataset (v t : List Dim) (g d : Dim) (bn : String) (hv : v.Nodup) (hg : g ∉ v.filter (· ∉ t)) :
    restore (v.filter (· ∉ t) ++ [g]) v ⟨g, [d], false, bn⟩ true = g :: v.filter (· ∉ t) := by
  have h := sort_filterMap v hv (Option.guard (· ∉ t)) (lookupKey v g [d] true) ?_ (some g) none ?_ (by simp)
    (v.filter (· ∉ t) ++ [g]) ?_
  · simpa [restore, List.filterMap_eq_filter] using h
  · intro x hx y hy
    obtain ⟨rfl, hxt⟩ := Option.guard_eq_some_iff.1 hy
    rw [lookupKey_of_not_renamed v g [d] true x (fun h => hg (h.1 ▸ List.mem_filter.2 ⟨hx, hxt⟩)), if_pos hx]
  · intro p hp
    obtain rfl := Option.mem_some.1 hp
    exact lookupKey_group_ds v g d
  · simp [List.filterMap_eq_filter]

/-- a grouper that is not 1-D: the group dim comes last (native: the object is stacked, the stacked dim is last) -/
theorem group_dim_last_for_nd_grouper (v t : List Dim) (name gn : Dim) (ds : List Dim) (b : Bool) (hv : v.Nodup)
    (hds : ds.length ≠ 1) (hg : gn ∉ v) :
    sortByKey (lookupKey v name ds b) (v.filter (· ∉ t) ++ [gn]) = v.filter (· ∉ t) ++ [gn] := by
  have h := sort_filterMap v hv (Option.guard (· ∉ t)) (lookupKey v name ds b) ?_ none (some gn) (by simp) ?_
    (v.filter (· ∉ t) ++ [gn]) ?_
  · simpa [List.filterMap_eq_filter] using h
  · intro x hx y hy
    obtain ⟨rfl, -⟩ := Option.guard_eq_some_iff.1 hy
    rw [lookupKey_of_not_renamed v name ds b x (fun h => hds h.2), if_pos hx]
  · intro q hq
    obtain rfl := Option.mem_some.1 hq
    rw [lookupKey_of_not_renamed v name ds b gn (fun h => hds h.2), if_neg hg]
  · rw [List.filterMap_eq_filter]
    exact .refl _

/-- whenever `dim_tuple` is accepted it is the list of dims native xarray reduces (`nativeReduced`) -/
theorem reduced_dims_eq_native (c : Call) (t : List Dim) (ht : dimTuple c = .ok t) : t = nativeReduced c := by
  unfold nativeReduced
  -- whichever list `t'` is chosen, the check for absent dims returns it or refuses
  have hchk : ∀ {t' : List Dim} {p : Prop} [Decidable p],
      (if p then (.error .absentDims : Except Err (List Dim)) else .ok t') = .ok t → t = t' := by
    intro t' p _ h
    split at h
    · cases h
    · exact (Except.ok.inj h).symm
  cases hdim : c.dim <;> simp only [dimTuple, hdim] at ht ⊢
  · exact hchk ht
  · match hg : c.groupers with
    | [g] => rw [hg] at ht; exact hchk ht
    | [] | _ :: _ :: _ => rw [hg] at ht; cases ht
  · exact hchk ht

/-- C15-F4 (repaired in /repo 30137c2): with `dim=...` and a dimension coordinate as grouper every dim is reduced, as
    native does, and the call is not a plain reduction -/
theorem ellipsis_dimension_coordinate_reduces_all :
    let c : Call := { isDataset := false, objDims := ["x", "y"], vars := [("v", ["x", "y"])], coords := [⟨"x", ["x"]⟩],
                      unindexed := [], groupers := [⟨"x", ["x"], false, "x_bins"⟩], dim := .ellipsis }
    dimTuple c = .ok ["x", "y"] ∧ nativeReduced c = ["x", "y"] ∧ shortcut c ["x", "y"] = false ∧
      varDims c ["x", "y"] "v" ["x", "y"] = .ok (nativeVarDims c ["x", "y"]) := by
  refine ⟨by decide +kernel, by decide +kernel, by decide +kernel, by decide +kernel⟩

/-- THE PROPERTY on the metadata model (partial: under the named restrictions of `Supported`; those starred in its
    definition are shown necessary by the counterexamples at the end, `varsNodup`, `groupNamesFresh` and
    `nativeDefined` are not):
    for every call, every dims list of every variable and every choice of reduced dims, the dims of every result
    variable are those of native xarray's groupby, in the same order.

    Full statement (false: see the counterexamples):
      ∀ c t, dimTuple c = .ok t → ∀ v ∈ c.vars, varDims c t v.1 v.2 = .ok (nativeVarDims c v.2) -/
theorem xdims_eq_native_partial (c : Call) (t : List Dim) (ht : dimTuple c = .ok t) (S : Supported c t)
    (v : String × List Dim) (hv : v ∈ c.vars) : varDims c t v.1 v.2 = .ok (nativeVarDims c v.2) := by
  have hgv := S.gd_subset hv
  unfold varDims nativeVarDims missing
  rw [← reduced_dims_eq_native c t ht]
  have hall := shortcut_eq_all S.binsReduceGrouperDim
  by_cases hs : shortcut c t = true
  · rw [hs] at hall
    have hgd : (grouperDims c.groupers).filter (· ∉ v.2) = [] :=
      List.filter_eq_nil_iff.2 fun x hx => by simpa using hgv x hx
    simp only [hs, if_true, S.bdims_eq, ← hall, S.shortcutOneDim hs, hgd,
      List.nil_append]
  · have hs : shortcut c t = false := Bool.eq_false_iff.2 hs
    rw [hs] at hall
    simp only [hs, Bool.false_eq_true, if_false, ← hall]
    -- no variable is passed through here (it has every grouper dim, one of which is reduced): `passThroughOneGrouper` is idle
    have hm : (c.isDataset && t.all (· ∉ v.2)) = false := S.not_missing hs hv
    have hany : t.any (· ∉ v.2) = false :=
      List.any_eq_false.2 fun x hx => by simpa using S.coreDimsPresent hs v hv hm x hx
    simp only [hm, Bool.false_eq_true, if_false, S.noBroadcast, Bool.not_false, Bool.true_and, hany,
      S.ufuncDims_eq hs]
    match hg : c.groupers with
    | [] | _ :: _ :: _ => rfl
    | [g] =>
      obtain ⟨hrecDS, hrecDA⟩ := S.groupDimRecognised g hg hs
      have hfresh := S.groupNamesFresh g (by simp [hg]) v hv
      have hvn := S.varsNodup v hv
      have hgt := S.gd_reduced hs
      rw [hg] at hgt hgv
      dsimp only
      rw [restore_guard, groupNames_single]
      congr 1
      obtain ⟨n, ds, b, bn⟩ := g
      by_cases hlen : ds.length = 1
      · -- 1-D: the group dim is recognised by name, so it is not binned
        obtain ⟨d, rfl⟩ := List.length_eq_one_iff.1 hlen
        rw [grouperDims_single_1d rfl] at hgt hgv
        have hdt : d ∈ t := hgt d List.mem_cons_self
        obtain rfl : b = false := by
          cases hds : c.isDataset
          · exact hrecDA hds rfl
          · exact (hrecDS hds).1
        have hnd : n ∈ v.2 → n = d := fun hnv => by simpa using (hfresh hnv).2.symm
        cases hds : c.isDataset
        · exact group_dim_takes_place_of_grouper_dim v.2 t n d bn hvn (hgv d List.mem_cons_self) hdt hnd
        · refine group_dim_first_in_dataset v.2 t n d bn hvn fun hmem => ?_
          obtain ⟨hnv, hnt⟩ := List.mem_filter.1 hmem
          exact absurd hdt (by simpa [hnd hnv] using hnt)
      · -- not 1-D: only compared in a DataArray; the group dim is not a dim of the variable
        have hds : c.isDataset = false := by
          cases hds : c.isDataset
          · rfl
          · exact absurd (hrecDS hds).2 hlen
        rw [hds]
        simp only [Bool.false_eq_true, if_false]
        split
        · exact absurd rfl hlen
        · exact group_dim_last_for_nd_grouper v.2 t n _ ds false hvn hlen fun h => hlen (congrArg List.length (hfresh h).2)

/-- coordinates of the result = native's: those without a reduced dim, plus the group coordinates (minus the
    un-indexed grouped dims).  `coordsOut` is handed the reduced dims `t` that `dimTuple` returned while `nativeCoords`
    computes them itself; `hnat` is what `reduced_dims_eq_native` gives for that `t`. -/
theorem coords_eq_native (c : Call) (t : List Dim) (hnat : t = nativeReduced c)
    (hbins : c.groupers.any (·.isbin) = true → t.all (· ∉ grouperDims c.groupers) = false) :
    coordsOut c t = nativeCoords c := by
  unfold coordsOut nativeCoords
  rw [← hnat, shortcut_eq_all hbins]

/-- a concrete supported call (3-D DataArray in "b a c" order, coordinate grouper along `a`, dim=None): non-vacuity -/
def exDA : Call :=
  { isDataset := false, objDims := ["b", "a", "c"], vars := [("v", ["b", "a", "c"])],
    coords := [⟨"a", ["a"]⟩, ⟨"lab", ["a"]⟩, ⟨"nd", ["c"]⟩, ⟨"sc", []⟩], unindexed := [],
    groupers := [⟨"lab", ["a"], false, "lab_bins"⟩], dim := .none }

example : dimTuple exDA = .ok ["a"] ∧ varDims exDA ["a"] "v" ["b", "a", "c"] = .ok ["b", "lab", "c"] ∧
    nativeVarDims exDA ["b", "a", "c"] = ["b", "lab", "c"] ∧ coordsOut exDA ["a"] = ["nd", "sc", "lab"] := by
  refine ⟨by decide +kernel, by decide +kernel, by decide +kernel, by decide +kernel⟩

example : Supported exDA ["a"] where
  noBroadcast := by decide +kernel
  varsNodup := by decide +kernel
  groupNamesFresh := by decide +kernel
  binsReduceGrouperDim := by decide +kernel
  shortcutOneDim := by decide +kernel
  nativeDefined := fun _ => Or.inl ⟨_, _, rfl, rfl⟩
  groupDimRecognised := by
    intro g hg _
    have : g = ⟨"lab", ["a"], false, "lab_bins"⟩ := by
      have h : [(⟨"lab", ["a"], false, "lab_bins"⟩ : Grouper)] = [g] := hg
      exact (List.cons.inj h).1.symm
    subst this
    exact ⟨fun h => absurd h (by decide), fun _ _ => rfl⟩
  passThroughOneGrouper := fun _ _ _ _ => rfl
  coreDimsPresent := by decide +kernel

/-- a Dataset call for the example below, which evaluates it with `dim := .none` (both variables have the reduced dim
    `x`).  As written, with `dim = ["x", "y"]`, variable `b` lacks `y`: `allDims exDS` is the `missingCoreDims "b"`
    error, and the call is not `Supported`. -/
def exDS : Call :=
  { isDataset := true, objDims := ["x", "y"], vars := [("a", ["y", "x"]), ("b", ["x"])],
    coords := [], unindexed := [], groupers := [⟨"lab", ["x"], false, "lab_bins"⟩], dim := .explicit ["x", "y"] }

example : allDims { exDS with dim := .none } = .ok [("a", ["lab", "y"]), ("b", ["lab"])] := by decide +kernel

/-! ### the restrictions are necessary: counterexamples on the model.  Each but (j) gives on the real code (/repo
  700e443, `xarray_reduce` against native xarray with flox disabled) the two results stated.  `C15-F…` are the ids of
  KNOWN_FINDINGS.json; "convention (j)/(k)/(l)" are differences from native xarray which the comparison in
  harness/props_xarray.py leaves out (the letters are those of its comments, the only place where they are listed) -/

/-- C15-F1: a BINNED 1-D grouper on a DataArray: `lookup_order` compares with `by.name`, the dim is called
    `<name>_bins`, so it is sent to the end; native puts it in the place of the grouper's dim -/
theorem bins_dim_last_counterexample :
    let c : Call := { isDataset := false, objDims := ["x", "y"], vars := [("v", ["x", "y"])], coords := [], unindexed := [],
                      groupers := [⟨"lab", ["x"], true, "lab_bins"⟩], dim := .none }
    dimTuple c = .ok ["x"] ∧ varDims c ["x"] "v" ["x", "y"] = .ok ["y", "lab_bins"] ∧
      nativeVarDims c ["x", "y"] = ["lab_bins", "y"] := by
  refine ⟨by decide +kernel, by decide +kernel, by decide +kernel⟩

/-- C15-F1: a 2-D grouper in a Dataset: `by.ndim == 1` fails, the group dim goes last; native `concat` puts it first -/
theorem dataset_nd_grouper_counterexample :
    let c : Call := { isDataset := true, objDims := ["x", "y", "z"], vars := [("v", ["x", "y", "z"])], coords := [],
                      unindexed := [], groupers := [⟨"lab", ["x", "y"], false, "lab_bins"⟩], dim := .none }
    varDims c ["x", "y"] "v" ["x", "y", "z"] = .ok ["z", "lab"] ∧ nativeVarDims c ["x", "y", "z"] = ["lab", "z"] := by
  refine ⟨by decide +kernel, by decide +kernel⟩

/-- C15-F6: a Dataset variable having some but not all of the reduced dims (no broadcast needed): apply_ufunc raises -/
theorem missing_core_dims_counterexample :
    let c : Call := { isDataset := true, objDims := ["x", "y"], vars := [("a", ["x", "y"]), ("b", ["x"])], coords := [],
                      unindexed := [], groupers := [⟨"lab", ["x"], false, "lab_bins"⟩], dim := .explicit ["x", "y"] }
    allDims c = .error (.missingCoreDims "b") ∧ nativeVarDims c ["x"] = ["lab"] := by
  refine ⟨by decide +kernel, by decide +kernel⟩

/-- C15-F7: several groupers and a Dataset that needs broadcasting: `xr.broadcast` transposes every variable to the
    Dataset's dim order and nothing restores the variable's own order (`nby == 1` guard) -/
theorem several_groupers_broadcast_order_counterexample :
    let c : Call := { isDataset := true, objDims := ["y", "z", "w"], vars := [("v1", ["w", "z", "y"]), ("v2", ["y"])],
                      coords := [], unindexed := [], groupers := [⟨"lab", ["w"], false, "lab_bins"⟩, ⟨"lab2", ["w"], false, "lab2_bins"⟩], dim := .none }
    varDims c ["w"] "v1" ["w", "z", "y"] = .ok ["y", "z", "lab", "lab2"] ∧
      nativeVarDims c ["w", "z", "y"] = ["z", "y", "lab", "lab2"] := by
  refine ⟨by decide +kernel, by decide +kernel⟩

/-- convention (k): in the plain-reduction shortcut flox keeps the object's order, native moves a 2-D grouper's dims
    last -/
theorem shortcut_nd_grouper_order_counterexample :
    let c : Call := { isDataset := false, objDims := ["y", "z", "w", "x"], vars := [("v", ["y", "z", "w", "x"])],
                      coords := [], unindexed := [], groupers := [⟨"lab", ["x", "w"], false, "lab_bins"⟩], dim := .explicit ["z"] }
    varDims c ["z"] "v" ["y", "z", "w", "x"] = .ok ["y", "w", "x"] ∧ nativeVarDims c ["y", "z", "w", "x"] = ["y", "x", "w"] := by
  refine ⟨by decide +kernel, by decide +kernel⟩

/-- convention (l): a pass-through variable gets the group dims in front; native appends them for several groupers -/
theorem passthrough_several_groupers_order_counterexample :
    let c : Call := { isDataset := true, objDims := ["x", "z", "w"], vars := [("v0", ["x", "w", "z"]), ("v1", ["x"])],
                      coords := [], unindexed := [], groupers := [⟨"lab", ["z"], false, "lab_bins"⟩, ⟨"lab2", ["w"], false, "lab2_bins"⟩], dim := .none }
    varDims c ["z", "w"] "v1" ["x"] = .ok ["lab", "lab2", "x"] ∧ nativeVarDims c ["x"] = ["x", "lab", "lab2"] := by
  refine ⟨by decide +kernel, by decide +kernel⟩

/-- convention (j): binning with no reduced dim among the grouper's dims: native does a plain reduction (no bin dim);
    the model does not take the shortcut (`shortcut` asks that nothing is binned) and announces the bin dim.  The real
    `xarray_reduce` does not return on this call (ValueError; AssertionError with `engine="flox"`), so only the model's
    side is shown here. -/
theorem bins_without_grouper_dim_counterexample :
    let c : Call := { isDataset := false, objDims := ["x", "y"], vars := [("v", ["x", "y"])], coords := [], unindexed := [],
                      groupers := [⟨"lab", ["x"], true, "lab_bins"⟩], dim := .explicit ["y"] }
    varDims c ["y"] "v" ["x", "y"] = .ok ["x", "lab_bins"] ∧ nativeVarDims c ["x", "y"] = ["x"] := by
  refine ⟨by decide +kernel, by decide +kernel⟩

/-- the reduction name that reaches `groupby_reduce` inside the wrapper, for every registered reduction × dtype kind
    (f i u b c O M m) × skipna ∈ {None, True, False}: the model's rule equals what the REAL wrapper hands over
    (table recorded by the translator on every run by intercepting `flox.xarray.groupby_reduce`) -/
theorem skipna_resolution :
    ∀ r ∈ Flox.Generated.xskipnaRows, resolveFunc r.1 r.2.1 r.2.2.1 = r.2.2.2 := by decide +kernel

/-- in words, for every reduction but the counting ones (`hc`): float / complex / object data skip NaN by default,
    everything else only on request.  The counting reductions, which never change and refuse a truthy skipna, are
    covered by their rows in `skipna_resolution` only. -/
theorem skipna_rule (base : String) (kind : Char) (hc : base ≠ "all" ∧ base ≠ "any" ∧ base ≠ "count") :
    resolveFunc ⟨false, base⟩ kind (some true) = some ⟨true, base⟩ ∧
    resolveFunc ⟨false, base⟩ kind (some false) = some ⟨false, base⟩ ∧
    (resolveFunc ⟨false, base⟩ kind none = some ⟨true, base⟩ ↔ (kind = 'c' ∨ kind = 'f' ∨ kind = 'O')) := by
  obtain ⟨h1, h2, h3⟩ := hc
  refine ⟨by simp [resolveFunc, h1, h2, h3], by simp [resolveFunc], ?_⟩
  by_cases hk : kind = 'c' ∨ kind = 'f' ∨ kind = 'O'
  · simp [resolveFunc, h1, h2, h3, hk]
  · simp [resolveFunc, hk]

example : Flox.Generated.xskipnaRows.length > 700 := by decide +kernel

end Flox.C15
