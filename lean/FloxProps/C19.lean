/-
  C19 — unsupported requests are refused cleanly; the auto plan works wherever map-reduce does.

  Model: `Flox.Decisions` (FloxModel/Decisions.lean) — `_validate_reindex`, `_choose_method`, `_choose_engine` and the
  guard chain of `groupby_reduce` / `dask_groupby_agg` on an abstract configuration cell; the three decision
  functions are proved equal to tables regenerated from the live code.  Spec: `Flox.Spec19` (FloxModel/SpecC19.lean).
  The data-dependent part of the property (no internal error at compute time, values equal to the NumPy oracle) is
  checked by differential execution over the enumerated cells (harness/props_c19.py).
-/
import FloxProofs.Decisions
import FloxModel.SpecC19

namespace Flox.C19
open Flox.Decisions

/-! ### tie to the code: the decision functions equal the regenerated tables -/

theorem validateReindex_eq_generated :
    ∀ r ∈ Generated.validateReindexRows,
      validateReindex r.reindex r.kind.cls r.method r.expected r.byDask r.arrDask r.isFloat = r.result :=
  Flox.Decisions.validateReindex_eq_generated

theorem chooseMethod_eq_generated :
    ∀ r ∈ Generated.chooseMethodRows, chooseMethod r.method r.preferred r.chunkNone r.naxEqNdim r.isArg = r.result :=
  Flox.Decisions.chooseMethod_eq_generated

theorem chooseEngine_eq_generated :
    ∀ r ∈ Generated.chooseEngineRows, chooseEngine r.kind r.countMask r.sorted r.byDask r.dtypeGiven r.hasNumbagg = r.engine :=
  Flox.Decisions.chooseEngine_eq_generated

theorem features_eq_generated :
    ∀ r ∈ Generated.funcFeatures, r.kind.isArg = r.isArg ∧ r.kind.isFirstLast = r.isFirstLast ∧
      r.kind.strictFirstLast = r.strictFirstLast ∧ r.kind.chunkNone = r.chunkNone ∧ r.kind.needsQ = r.needsQ := by
  decide +kernel

/-! ### the reindex / method / engine rules -/

/-- on chunked input `method="cohorts"` never comes with blockwise reindexing -/
theorem validate_never_cohorts_with_blockwise_reindex
    (reindex : Option Bool) (k : FuncClass) (expected byDask arrDask isFloat : Bool)
    (hdask : (arrDask || byDask) = true) :
    validateReindex reindex k (some .cohorts) expected byDask arrDask isFloat ≠ .ok (some true) :=
  fun h => (validateReindex_true_on_dask h hdask).1 rfl

example : validateReindex none .plain (some .cohorts) true false true true = .ok (some false) := by decide +kernel
example : validateReindex (some true) .plain (some .cohorts) true false true true = .err .valueError := by decide +kernel

/-- arg-reductions on chunked input are never reindexed blockwise by `_validate_reindex` (`…_partial`: except under an
    explicit blockwise plan with dask labels, where `reindex` resolves to `any_by_dask` — see the counterexample; the
    whole chain then accepts that plan on a single block only, `blockwise_dask_labels_single_block`) -/
theorem argreduce_never_reindex_true_partial
    (reindex : Option Bool) (method : Option Method) (expected byDask arrDask isFloat : Bool)
    (hdask : (arrDask || byDask) = true) (hm : (method == some .blockwise && byDask) = false) :
    validateReindex reindex .arg method expected byDask arrDask isFloat ≠ .ok (some true) :=
  fun h => absurd ((validateReindex_true_on_dask h hdask).2.2 rfl) (by simp [hm])

-- full statement (false in the model):
--   ∀ reindex method …, (arrDask || byDask) → validateReindex reindex .arg method … ≠ .ok (some true)
theorem argreduce_never_reindex_true_counterexample :
    validateReindex none .arg (some .blockwise) true true true true = .ok (some true) :=
  argreduce_blockwise_dask_labels_counterexample

example : validateReindex none .arg (some .mapReduce) true false true true = .ok (some false) := by decide +kernel

/-- first / last (and nanfirst / nanlast on non-float data) are never reindexed blockwise on chunked input -/
theorem first_last_never_reindex_blockwise
    (reindex : Option Bool) (k : FuncClass) (method : Option Method) (expected byDask arrDask isFloat : Bool)
    (hdask : (arrDask || byDask) = true) (hfl : (k.strictFirstLast || (k.isFirstLast && !isFloat)) = true) :
    validateReindex reindex k method expected byDask arrDask isFloat ≠ .ok (some true) :=
  fun h => absurd hfl (by simp [(validateReindex_true_on_dask h hdask).2.1])

example : validateReindex none .nanfirst (some .mapReduce) true false true false = .ok (some false) := by decide +kernel

/-- `method=None` never fails in `_choose_method` for a reduction that has a chunk function -/
theorem auto_method_total (preferred : Method) (naxEqNdim isArg : Bool) :
    (chooseMethod none preferred false naxEqNdim isArg).isOk = true := by
  cases preferred <;> cases naxEqNdim <;> cases isArg <;> decide

example : chooseMethod none .blockwise false true true = .ok .cohorts := by decide +kernel
example : chooseMethod none .cohorts true true false = .err .valueError := by decide +kernel

/-- the engine flox picks can run the reduction -/
theorem engine_able (k : FuncKind) (countMask sorted byDask dtypeGiven hasNumbagg : Bool) :
    (k.isArg = true → chooseEngine k countMask sorted byDask dtypeGiven hasNumbagg ≠ .flox) ∧
    (k.quantileLike = true → chooseEngine k countMask sorted byDask dtypeGiven hasNumbagg = .flox) ∧
    (chooseEngine k countMask sorted byDask dtypeGiven hasNumbagg = .numbagg →
        hasNumbagg = true ∧ k.isArg = false ∧ (dtypeGiven = false ∨ k.isAnyAll = true)) ∧
    chooseEngine k countMask sorted byDask dtypeGiven hasNumbagg ≠ .numba :=
  Flox.Decisions.engine_able k countMask sorted byDask dtypeGiven hasNumbagg

example : chooseEngine .nanskip false true false false true = .numbagg ∧ chooseEngine .plain false true false false true = .flox ∧
    chooseEngine .plain true true false false true = .numbagg ∧ chooseEngine .arg false true false false true = .numpy := by decide +kernel

/-! ### the whole validation chain -/

theorem validate_ok (c : Cell) (p : Plan) (h : validate c = .ok p) :
    entryGuards c.fk c.engine c.dtypeGiven c.dtypeInt c.qGiven c.byDask c.arrDask = .ok () ∧
    core c.toCoreCell = .ok (p.method, p.blockwise) ∧ p.engine = engineOf c := by
  obtain ⟨_, hg, h⟩ := Res.bind_eq_ok.mp h
  obtain ⟨⟨m, b⟩, hc, hp⟩ := Res.bind_eq_ok.mp h
  cases hp
  exact ⟨hg, hc, rfl⟩

/-- how the model's verdict reads as an outcome of the specification -/
def toOutcome : Res Plan → Spec19.Outcome
  | .ok _ => .ok []
  | .err .valueError => .raised ["ValueError", "Exception"]
  | .err .notImplemented => .raised ["NotImplementedError", "RuntimeError", "Exception"]
  | .err .importError => .raised ["ImportError", "Exception"]
  | .err .assertion => .raised ["AssertionError", "Exception"]
  | .err .other => .raised ["Exception"]

/-- **Clean refusal.**  On aligned input (the documented contract) the validation chain either accepts the request or
    refuses it with ValueError / NotImplementedError / ImportError — no assertion can fail, for any
    reduction, engine, method, reindex, label kind, axis relation, expected_groups and planner preference.
    (`hal` is not used: unaligned input is refused with ValueError.) -/
theorem validate_no_internal (c : Cell) (hal : c.aligned = true) :
    (toOutcome (validate c)).clean = true := by
  have hv : (validate c).Clean :=
    Res.clean_bind (entryGuards_clean ..) fun _ => Res.clean_bind (core_clean _) fun _ => Res.clean_ok _
  cases h : validate c with
  | ok p => rfl
  | err e => cases e <;> first | rfl | exact absurd h hv.1 | exact absurd h hv.2

def cellTooMany : Cell :=
  { kind := .plain, method := none, reindex := none, byDask := false, arrDask := false, ax := axisRel 2 1,
    expected := false, isFloat := true, preferred := .mapReduce, cohortsEmpty := true, singleBlock := true,
    aligned := true, fk := .plain, qGiven := true, engine := none, dtypeGiven := false, dtypeInt := false, countMask := false, sorted := true, hasNumbagg := true }

/-- the inputs of three repaired findings are refused cleanly:
    `groupby_reduce(array_2d, by_1d, func="sum", axis=(0, 1))` (C19-F6: `assert nax <= by_.ndim`, repaired in /repo
    a40789b) -> ValueError; an arg-reduction over both axes of 2-D labels on a chunked array (C19-F1: `assert
    len(axis) == 1`, dbd2583) -> NotImplementedError; an arg-reduction with a floating `dtype=` (C19-F7: a TypeError
    inside numpy_groupies, e0a2a43) -> ValueError -/
example : validate cellTooMany = .err .valueError ∧
    validate { cellTooMany with kind := .arg, fk := .arg, arrDask := true, ax := axisRel 2 2 } = .err .notImplemented ∧
    validate { cellTooMany with kind := .arg, fk := .arg, ax := axisRel 1 1, dtypeGiven := true, dtypeInt := false }
      = .err .valueError ∧
    validate { cellTooMany with kind := .arg, fk := .arg, ax := axisRel 1 1, dtypeGiven := true, dtypeInt := true }
      = .ok { method := none, blockwise := some true, engine := .numpy } := by decide +kernel

def cellExample : Cell :=
  { kind := .arg, method := some .cohorts, reindex := none, byDask := false, arrDask := true, ax := axisRel 1 1,
    expected := true, isFloat := true, preferred := .cohorts, cohortsEmpty := false, singleBlock := false,
    aligned := true, fk := .arg, qGiven := true, engine := none, dtypeGiven := false, dtypeInt := false, countMask := true, sorted := false, hasNumbagg := true }

/-- non-vacuity: an accepted and a refused request satisfying the hypotheses -/
example : cellExample.aligned = true ∧
    validate cellExample = .ok { method := some .cohorts, blockwise := some false, engine := .numpy } ∧
    validate { cellExample with reindex := some true } = .err .notImplemented := by decide +kernel

/-- **What reaches graph construction is consistent** (hence the two `raise ValueError` at the top of
    `dask_groupby_agg` and the strategy-specific `NotImplementedError`s cannot fire later): cohorts never with
    blockwise reindexing, blockwise reindexing only with known labels, arg-reductions under blockwise only on one block,
    reductions without a chunk function only blockwise, a subset of the label axes only under map-reduce, a blockwise
    plan reindexing every block only on a single block (always so with dask labels), a definite reindex flag, and an
    explicit method is honoured (cohorts may fall back to map-reduce when there is nothing to split). -/
theorem validate_plan_sound (c : Cell) (hal : c.aligned = true) (p : Plan) (h : validate c = .ok p) :
    planSound c.toCoreCell p.method p.blockwise = true :=
  core_plan_sound c.toCoreCell hal p.method p.blockwise (validate_ok c p h).2.1

/-- **A blockwise plan that reindexes every block is accepted only on a single block** along the reduced axes (with
    several blocks the request is refused with ValueError; finding C19-F8, repaired in /repo 2b42b6d: only the first
    block's groups reached the result). -/
theorem blockwise_reindexed_only_single_block (c : Cell) (hal : c.aligned = true) (p : Plan) (h : validate c = .ok p)
    (hm : p.method = some .blockwise) (hb : p.blockwise = some true) : c.singleBlock = true := by
  have hs := validate_plan_sound c hal p h
  cases hsb : c.singleBlock with
  | true => rfl
  | false =>
    exfalso
    simp [planSound, hm, hb, hsb] at hs

/-- **method="blockwise" with dask labels** is accepted only when every block is reindexed to the expected groups,
    hence only on a single block along the reduced axes — everything else is a clean refusal (finding C19-F2, repaired
    in /repo 2b42b6d: pandas' TypeError). -/
theorem blockwise_dask_labels_single_block (c : Cell) (hal : c.aligned = true) (p : Plan) (h : validate c = .ok p)
    (hm : p.method = some .blockwise) (hd : c.byDask = true) : p.blockwise = some true ∧ c.singleBlock = true := by
  have hs := validate_plan_sound c hal p h
  have hb : p.blockwise = some true := by
    rcases hpb : p.blockwise with _ | b
    · exfalso; simp [planSound, hm, hd, hpb] at hs
    · cases b with
      | true => rfl
      | false => exfalso; simp [planSound, hm, hd, hpb] at hs
  exact ⟨hb, blockwise_reindexed_only_single_block c hal p h hm hb⟩

def cellBlockwiseDask : Cell :=
  { kind := .plain, method := some .blockwise, reindex := none, byDask := true, arrDask := true, ax := axisRel 1 1,
    expected := true, isFloat := true, preferred := .mapReduce, cohortsEmpty := true, singleBlock := true,
    aligned := true, fk := .plain, qGiven := true, engine := some .numpy, dtypeGiven := false, dtypeInt := false,
    countMask := true, sorted := false, hasNumbagg := true }

/-- non-vacuity: accepted on one block, refused (ValueError) on several blocks or with reindex=False; and with numpy
    labels `method=None, reindex=True` for a reduction without a chunk function runs blockwise with every block
    reporting its own groups -/
example :
    validate cellBlockwiseDask = .ok { method := some .blockwise, blockwise := some true, engine := .numpy } ∧
    validate { cellBlockwiseDask with singleBlock := false } = .err .valueError ∧
    validate { cellBlockwiseDask with reindex := some false } = .err .valueError ∧
    validate { cellBlockwiseDask with kind := .blockwiseOnly, fk := .median, method := none, reindex := some true,
                                      byDask := false, preferred := .blockwise, cohortsEmpty := false, singleBlock := false }
      = .ok { method := some .blockwise, blockwise := some false, engine := .numpy } := by decide +kernel

/-- an accepted arg-reduction never runs on flox's own engine (which does not implement it) -/
theorem validate_engine_able (c : Cell) (p : Plan) (hfk : c.fk.isArg = true) (h : validate c = .ok p) :
    p.engine ≠ .flox := by
  obtain ⟨hg, _, he⟩ := validate_ok c p h
  rw [he]
  unfold engineOf
  cases heng : c.engine with
  | none => exact (Flox.Decisions.engine_able c.fk c.countMask c.sorted c.byDask c.dtypeGiven c.hasNumbagg).1 hfk
  | some e =>
    intro hflox
    simp only at hflox
    subst hflox
    unfold entryGuards at hg
    simp [heng, hfk] at hg

theorem validate_isOk (c : Cell) :
    (validate c).isOk = ((entryGuards c.fk c.engine c.dtypeGiven c.dtypeInt c.qGiven c.byDask c.arrDask).isOk &&
      (core c.toCoreCell).isOk) := by
  unfold validate
  cases entryGuards c.fk c.engine c.dtypeGiven c.dtypeInt c.qGiven c.byDask c.arrDask with
  | err e => rfl
  | ok u => exact Res.isOk_bind_ok _ _

/-- **Auto plan ⊒ map-reduce.**  Whenever the request with `method="map-reduce"` is accepted, the same request with
    `method=None` is accepted too — whatever `find_group_cohorts` prefers. -/
theorem auto_plan_refines_mapreduce (c : Cell) (hal : c.aligned = true)
    (h : (validate { c with method := some .mapReduce }).isOk = true) :
    (validate { c with method := none }).isOk = true := by
  rw [validate_isOk] at h ⊢
  simp only [Bool.and_eq_true] at h ⊢
  exact ⟨h.1, (core_auto_vs_mapreduce c.toCoreCell hal).1 h.2⟩

/-- conversely, for a reduction with a chunk function the auto plan is accepted only where map-reduce is -/
theorem auto_plan_accepted_only_where_mapreduce_is (c : Cell) (hal : c.aligned = true) (hk : c.kind.chunkNone = false)
    (h : (validate { c with method := none }).isOk = true) :
    (validate { c with method := some .mapReduce }).isOk = true := by
  rw [validate_isOk] at h ⊢
  simp only [Bool.and_eq_true] at h ⊢
  exact ⟨h.1, (core_auto_vs_mapreduce c.toCoreCell hal).2 hk h.2⟩

example : (validate { cellExample with method := some .mapReduce }).isOk = true ∧
    validate { cellExample with method := none } = .ok { method := some .cohorts, blockwise := some false, engine := .numpy } := by
  decide +kernel

/-! ### method="blockwise" outside its precondition is refused, never answered wrongly -/

/-- **Spanning groups are refused** (any number of blocks of any size).  `blockwiseRefused`
    models the check after the blockwise plan (core.py: a repeated missing-label code `-1` is dropped, then
    `len(pd.unique(groups_)) != groups_.size` raises ValueError).  If a label code other than `-1` occurs in two
    different blocks, the request is refused whatever else the blocks contain.  The blocks are those the plan ran on,
    i.e. after `rechunk_for_blockwise`, not the caller's chunks; `blockwiseRefused` is read off the code, no driver
    operation or harness stream exercises it. -/
theorem blockwise_spanning_refused (pre mid post : List (List Int)) (b1 b2 : List Int) (c : Int) (hc : c ≠ -1)
    (h1 : c ∈ b1) (h2 : c ∈ b2) :
    blockwiseRefused (pre ++ b1 :: mid ++ b2 :: post) = true :=
  Flox.Decisions.blockwise_spanning_refused pre mid post b1 b2 c hc h1 h2

example : blockwiseRefused ([[5]] ++ [0, 0, 1] :: [[7], [-1]] ++ [1, 2, -1] :: [[-1]]) = true ∧
    blockwiseRefused [[0, 0, -1], [-1, 2], [-1]] = false := by decide +kernel

/-- the specification accepts clean refusals and rejects internal errors, wrong answers and an auto plan that fails
    where map-reduce succeeds -/
example :
    Spec19.holds { reference := .ok ["1", "2"], mapReduce := .ok ["1", "2"], auto := .ok ["1", "2"],
                   cohorts := .raised ["NotImplementedError", "RuntimeError", "Exception"], blockwise := .notRun } = true ∧
    Spec19.violations { reference := .ok ["1", "2"], mapReduce := .ok ["1", "2"], auto := .raised ["AssertionError", "Exception"],
                        cohorts := .ok ["1", "3"], blockwise := .notRun }
      = ["internal-error:auto", "wrong-answer:cohorts", "auto-fails-where-map-reduce-succeeds",
         "cohorts-neither-matches-nor-refused"] := by decide +kernel

end Flox.C19
