/-
  C10 — grouped scans (nancumsum, ffill, bfill) equal per-group sequential scans, for every chunking.
  Model: FloxModel/Scan.lean (flox's code path), specification: FloxModel/ScanSpec.lean (NumPy semantics only).

  Hypotheses narrower than the property's quantifier, each named:
    `Good f l`  (nancumsum: no ±inf in the data) – shown necessary by counterexamples, findings C10-F2 (kernel) and
                C10-F3 (carried state);
    `hneg`      (nancumsum: no missing label) – flox refuses such input, `nancumsum_refuses_missing`, except through
                the one-element early return, which comes first;
    `floatData = true` (`array.dtype.kind == "f"`) in the entry-point theorems; for the other kinds only the fills of
                data without missing values are stated (`fill_nonfloat`).
  The early return "one element / every element alone in its group" is covered: `shortcut_correct` (finding C10-F1,
  repaired in /repo 53517b3).
-/
import FloxProofs.ScanEntry

namespace Flox.C10
open Flox Flox.Scan

/-! ### the specification says what the property says -/

/-- the positions of every group hold the ordinary NumPy scan (`np.nancumsum` / forward fill) of that group's members in
    positional order, and the result has the input's shape -/
theorem spec_is_grouped_scan (f : Func) (l : AA) :
    (groupedScan f l).length = l.length ∧ ∀ g, mem g ((keys l).zip (groupedScan f l)) = seqScan f (mem g l) :=
  ⟨groupedScan_length f l, fun g => groupedScanFrom_members f [] l g⟩

/-- no cross-group flow: the value at a position is determined by the members of its own label at positions up to and
    including itself (`a` = everything before, `b` = everything after; neither `b` nor other labels in `a` enter) -/
theorem no_cross_group_flow (f : Func) (a b : AA) (p : Int × Val) :
    (groupedScan f (a ++ p :: b))[a.length]? = some (scanLast f (mem p.1 (a ++ [p]))) := by
  have hl := groupedScan_length f a
  rw [groupedScan_append, List.getElem?_append_right (by omega), hl, groupedScanFrom_cons, scanLast_mem_snoc]
  simp

/-- `aggregate_flox.ffill` (stable sort, group starts, mask, `maximum.accumulate` of indices, inverse permutation) is
    the grouped forward fill – for all inputs, also NaN at group starts, unsorted labels, label `-1` -/
theorem ffillEngine_eq_spec (l : AA) : ffillEngine l = groupedScan .ffill l :=
  ffillEngine_eq_groupedScan l

/-- numpy_groupies' `nancumsum` is the grouped `np.nancumsum` when no `±inf` occurs.
    Full statement (FALSE, see `nancumsum_inf_counterexample`): `∀ l, npgNancumsum l = groupedScan .nancumsum l`. -/
theorem nancumsumEngine_eq_spec_partial (l : AA) (h : NoInf l) : npgNancumsum l = groupedScan .nancumsum l :=
  npgNancumsum_eq_groupedScan l h

/-- C10-F2: one `+inf` in group 0 turns its own entry AND all entries of group 1 into NaN (cross-group flow) -/
theorem nancumsum_inf_counterexample :
    npgNancumsum [(1, .fin 1), (0, .pinf), (1, .fin 2)] = [.nan, .nan, .nan] ∧
    groupedScan .nancumsum [(1, .fin 1), (0, .pinf), (1, .fin 2)] = [.fin 1, .pinf, .fin 3] := by
  decide +kernel

/-- the binary operator of the parallel scan combines the states of two adjacent histories into the state of their
    concatenation (`Rep f S X`: the aligned arrays `S` carry, for every group, the last scan value of history `X`) -/
theorem scanBinop_homomorphism (f : Func) (l r A B : AA) (hl : Rep f l A) (hr : Rep f r B)
    (hA : Good f A) (hB : Good f B) : Rep f (combineState f l r) (A ++ B) :=
  rep_combine f l r A B hl hr hA hB

/-- associativity in the sense needed: both bracketings of three adjacent block states represent the same history -/
theorem scanBinop_assoc (f : Func) (a b c : AA) (ha : Good f a) (hb : Good f b) (hc : Good f c) :
    Rep f (combineState f (combineState f (groupedReduce f a) (groupedReduce f b)) (groupedReduce f c)) (a ++ b ++ c) ∧
    Rep f (combineState f (groupedReduce f a) (combineState f (groupedReduce f b) (groupedReduce f c))) (a ++ b ++ c) :=
  rep_combine_assoc f a b c ha hb hc

/-- for an ARBITRARY bracketing `t : BTree` of block indices (not only those dask builds) combining the per-block states
    along `t` gives the state of the blocks concatenated in leaf order.  The trees of dask's Blelloch up-sweep /
    down-sweep are `blellochTrees n`; their leaf order is `0..i` (`Scan.blellochTrees_valid`), so they give the
    sequential prefix. -/
theorem blelloch_eq_sequential (f : Func) (blocks : List AA) (h : ∀ b ∈ blocks, Good f b) (t : BTree) :
    Rep f (t.eval (combineState f) (fun j => groupedReduce f (blocks.getD j [])))
      ((t.leaves.map (blocks.getD · [])).flatten) :=
  tree_rep f blocks h t

/-- C10-F3: the state update `concatenate([left, result]).last()` is a `nanlast`: a NaN total (`inf + -inf`) is
    skipped and the older `+inf` survives, so the state does not represent the history -/
theorem nancumsum_state_loses_nan_counterexample :
    combineState .nancumsum (groupedReduce .nancumsum [(0, .pinf)]) (groupedReduce .nancumsum [(0, .ninf)]) = [(0, .pinf)] ∧
    groupedReduce .nancumsum [(0, .pinf), (0, .ninf)] = [(0, .nan)] := by
  decide +kernel

/-- the bounded form (`n ≤ 32`) of `Scan.blellochTrees_valid`, which holds for all `n`: the bracketings dask builds
    are well-formed (tree `i` brackets blocks `0..i` in order).  The driver re-checks `validTrees` at run time all the
    same. -/
theorem blellochTrees_valid_upto_32 : ∀ n ∈ List.range 33, validTrees (blellochTrees n) = true :=
  fun n _ => blellochTrees_valid n

/-- dask path: for EVERY list of blocks (any chunking, groups skipping blocks, all-NaN blocks …; for nancumsum every
    block without ±inf, `Good`) and EVERY well-formed family of bracketings the blockwise result is the grouped scan
    of the concatenated input -/
theorem scan_chunked_eq_spec (f : Func) (trees : List BTree) (blocks : List AA) (h : ∀ b ∈ blocks, Good f b)
    (ht : TreesOK trees blocks.length) : scanChunked f trees blocks = groupedScan f blocks.flatten :=
  scanChunked_eq f trees blocks h ht

/-- the entry point, float data: in-memory and chunked results both equal the specification, hence each other,
    including the early return for "one element / every element alone in its group".
    `Good` restricts nancumsum to data without ±inf; for nancumsum labels must not be missing (flox refuses them, see
    `nancumsum_refuses_missing`).
    Full statement (FALSE): without `hg`; see `nancumsum_inf_counterexample`, `nancumsum_chunked_inf_counterexample`. -/
theorem groupby_scan_eq_spec_partial (f : Func) (chunks : Option (List Nat)) (trees : List BTree) (l : AA)
    (hg : Good f l) (hneg : f = .nancumsum → ∀ k ∈ keys l, 0 ≤ k)
    (hc : ChunksOK chunks trees l.length) :
    groupbyScan f true chunks trees l = .ok (spec f l) := by
  by_cases hs : Shortcut l
  · unfold groupbyScan
    rw [if_neg (by simp), if_pos (show l.length = 1 ∨ l.length = ngroups l from hs), shortcut_eq_spec f l hs]
  · exact groupbyScan_eq_spec_main f chunks trees l hs hg hneg hc

/-- ffill / bfill need no hypothesis at all on the data or the labels (NaN at group starts, label -1, ±inf, any
    chunking) -/
theorem groupby_fill_eq_spec (f : Func) (hf : f ≠ .nancumsum) (chunks : Option (List Nat)) (trees : List BTree) (l : AA)
    (hc : ChunksOK chunks trees l.length) :
    groupbyScan f true chunks trees l = .ok (spec f l) :=
  groupby_scan_eq_spec_partial f chunks trees l (fun h => absurd h hf) (fun h => absurd h hf) hc

/-- chunked = eager under any chunking and bracketing -/
theorem chunked_eq_eager_partial (f : Func) (cs : List Nat) (trees : List BTree) (l : AA)
    (hg : Good f l) (hneg : f = .nancumsum → ∀ k ∈ keys l, 0 ≤ k)
    (hsum : cs.sum = l.length) (ht : TreesOK trees cs.length) :
    groupbyScan f true (some cs) trees l = groupbyScan f true none [] l := by
  rw [groupby_scan_eq_spec_partial f (some cs) trees l hg hneg (by intro c hc; cases hc; exact ⟨hsum, ht⟩),
    groupby_scan_eq_spec_partial f none [] l hg hneg (by intro c hc; cases hc)]

/-- bfill is the mirror image of ffill: the model's bfill (reverse as preprocess and finalize, reversed chunks) equals
    `reverse ∘ ffill-spec ∘ reverse` – for all inputs -/
theorem bfill_mirror (chunks : Option (List Nat)) (trees : List BTree) (l : AA)
    (hc : ChunksOK chunks trees l.length) :
    groupbyScan .bfill true chunks trees l = .ok (groupedScan .ffill l.reverse).reverse :=
  groupby_fill_eq_spec .bfill (by decide) chunks trees l hc

/-- the early return `by_.shape[-1] == 1 or by_.shape == grp_shape` is taken only when every element is alone in its
    group, and what it returns (the array; NaN→0 for nancumsum) is the specification -/
theorem shortcut_correct (f : Func) (l : AA) (h : Shortcut l) :
    (keys l).Nodup ∧ (if f = .nancumsum ∧ true = true then vals (nanToZero l) else vals l) = spec f l :=
  ⟨shortcut_nodup l h, shortcut_eq_spec f l h⟩

/-- `floatData = false` stands for flox's test `array.dtype.kind != "f"`: ffill and bfill return the array untouched.
    That is the fill when the data hold no missing value (`h`), as integer / boolean data cannot; datetime / timedelta
    data take the same branch and may hold NaT, which no theorem here covers (finding C10-F5) -/
theorem fill_nonfloat (f : Func) (hf : f ≠ .nancumsum) (chunks : Option (List Nat)) (trees : List BTree) (l : AA)
    (h : ∀ p ∈ l, p.2.isNaN = false) : groupbyScan f false chunks trees l = .ok (spec f l) := by
  unfold groupbyScan
  rw [if_pos (by simp [isFill_of_ne hf]), spec_fill_eq_vals f hf l (groupedScanFrom_noNaN .ffill (by decide) [] l h)
    (groupedScanFrom_noNaN .ffill (by decide) [] l.reverse fun p hp => h p (List.mem_reverse.mp hp))]

/-- when all labels are distinct a fill changes nothing, so the shortcut is harmless for ffill / bfill -/
theorem fill_distinct_labels_identity (f : Func) (hf : f ≠ .nancumsum) (l : AA) (h : (keys l).Nodup) :
    groupedScan f l = vals l :=
  groupedScan_distinct_fill f hf l h

-- finding C10-F1, repaired in /repo 53517b3: every element its own group, NaN becomes 0 as in NumPy
example : groupbyScan .nancumsum true none [] [(0, .fin 1), (1, .nan), (2, .fin 2)] = .ok [.fin 1, .fin 0, .fin 2] ∧
    spec .nancumsum [(0, .fin 1), (1, .nan), (2, .fin 2)] = [.fin 1, .fin 0, .fin 2] := by
  decide +kernel
example : Shortcut [(0, .fin 1), (1, .nan), (2, .fin 2)] := by unfold Shortcut; decide +kernel

/-- C10-F3 at API level: four blocks `[inf] [-inf] [1] [2]` of one group: chunked ≠ eager (and both ≠ NumPy) -/
theorem nancumsum_chunked_inf_counterexample :
    groupbyScan .nancumsum true (some [1, 1, 1, 1]) (blellochTrees 3) [(0, .pinf), (0, .ninf), (0, .fin 1), (0, .fin 2)]
      = .ok [.nan, .nan, .pinf, .pinf] ∧
    groupbyScan .nancumsum true none [] [(0, .pinf), (0, .ninf), (0, .fin 1), (0, .fin 2)] = .ok [.nan, .nan, .nan, .nan] ∧
    spec .nancumsum [(0, .pinf), (0, .ninf), (0, .fin 1), (0, .fin 2)] = [.pinf, .nan, .nan, .nan] := by
  decide +kernel

/-- nancumsum refuses missing labels (code -1), ffill / bfill bucket them (a one-element input returns early, before the
    refusal) -/
theorem nancumsum_refuses_missing :
    groupbyScan .nancumsum true none [] [(0, .fin 1), (-1, .fin 5), (0, .fin 2)] = .refused := by
  decide +kernel

/-! ### non-vacuity: the hypotheses are satisfiable on non-trivial inputs and the theorems say something there -/

-- two interleaved groups, NaN run across a block boundary, group 1 absent from the middle block, 3 blocks (two-level
-- prefix)
example : ¬ Shortcut [(0, .fin 1), (1, .nan), (0, .nan), (0, .nan), (1, .fin 4), (0, .fin 2)] := by
  unfold Shortcut; decide +kernel
example : ChunksOK (some [2, 2, 2]) (blellochTrees 2) 6 := by
  intro cs h; cases h; exact ⟨rfl, treesOK_blellochTrees 3⟩
example : groupbyScan .ffill true (some [2, 2, 2]) (blellochTrees 2)
    [(0, .fin 1), (1, .nan), (0, .nan), (0, .nan), (1, .fin 4), (0, .fin 2)]
    = .ok [.fin 1, .nan, .fin 1, .fin 1, .fin 4, .fin 2] := by decide +kernel
example : groupbyScan .bfill true (some [2, 2, 2]) (blellochTrees 2)
    [(0, .fin 1), (1, .nan), (0, .nan), (0, .nan), (1, .fin 4), (0, .fin 2)]
    = .ok [.fin 1, .fin 4, .fin 2, .fin 2, .fin 4, .fin 2] := by decide +kernel
example : groupbyScan .nancumsum true (some [1, 1, 1, 1, 2]) (blellochTrees 4)
    [(0, .fin 1), (1, .nan), (0, .nan), (0, .fin 3), (1, .fin 4), (0, .fin 2)]
    = .ok [.fin 1, .fin 0, .fin 1, .fin 4, .fin 4, .fin 6] := by decide +kernel
example : NoInf [(0, .fin 1), (1, .nan), (0, .nan)] := by
  intro p hp; simp at hp; rcases hp with rfl | rfl | rfl <;> simp
example : (BTree.node (.node (.leaf 0) (.leaf 1)) (.leaf 2)).leaves = List.range 3 := by decide
example : blellochTrees 4 = [.leaf 0, .node (.leaf 0) (.leaf 1), .node (.node (.leaf 0) (.leaf 1)) (.leaf 2),
    .node (.node (.leaf 0) (.leaf 1)) (.node (.leaf 2) (.leaf 3))] := by decide +kernel

end Flox.C10
