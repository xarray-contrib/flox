/-
  C17 — rechunking helpers keep the chunk structure valid and establish their alignment postconditions.

  Model   : `Flox.Rechunk.optimal` (= `_get_optimal_chunks_for_groups`), `blockwise` (= factorise + optimal, the chunk
            computation of `rechunk_for_blockwise`), `cohorts` (= the division loop of `rechunk_for_cohorts`).
  Spec    : `ValidChunks`, `NoStraddle`, `OneBlockPerLabel`, `ForcedStart`, `KeepsOld`, `Contiguous`
            (FloxModel/Rechunk.lean, last section; written from the property text); `blockMembers`
            (FloxProofs/Rechunk.lean).
  All theorems hold for every label vector / chunking / hint (induction over the lists, no size bound).
  "Same shape, dtype and values, other axes untouched" is a statement about dask's `Array.rechunk` / xarray's
  `copy(data=…)`, which are not modelled: it is checked by execution in the harness (harness/props_rechunk.py).
-/
import FloxProofs.Rechunk

namespace Flox.C17
open Flox.Rechunk

/-- for ANY label codes: the new chunks are positive and sum to the axis length -/
theorem optimal_valid (chunks labels : List Nat) (hv : ValidChunks labels.length chunks) :
    ValidChunks labels.length (optimal chunks labels) :=
  (optimal_struct chunks labels hv).1

/-- sequential labels (each label one contiguous run – not even required to be ascending): no group straddles a
    boundary of the new chunks -/
theorem optimal_no_straddle (chunks labels : List Nat) (hv : ValidChunks labels.length chunks)
    (hseq : Contiguous labels) : NoStraddle labels (optimal chunks labels) :=
  fun b hb => ((optimal_struct chunks labels hv).2 b hb).noStraddle hseq

/-- the same through the factorisation done by `rechunk_for_blockwise` (raw integer labels, `none` = NaN) -/
theorem blockwise_valid (chunks : List Nat) (raw : List (Option Int)) (hv : ValidChunks raw.length chunks) :
    ValidChunks raw.length (blockwise chunks raw) := by
  have := optimal_valid chunks (factorize raw) (by rwa [length_factorize])
  rwa [length_factorize] at this

theorem blockwise_no_straddle (chunks : List Nat) (raw : List (Option Int)) (hv : ValidChunks raw.length chunks)
    (hseq : Contiguous raw) : NoStraddle raw (blockwise chunks raw) :=
  noStraddle_of_map _ raw _
    (optimal_no_straddle chunks (factorize raw) (by rwa [length_factorize]) (contiguous_factorize raw hseq))

/-- what `method="blockwise"` relies on: after the rechunk every label lives in exactly one block, so the per-block
    grouped reductions see whole groups (the blocks are `splitBy newchunks labels`) -/
theorem blockwise_one_block_per_label (chunks : List Nat) (raw : List (Option Int))
    (hv : ValidChunks raw.length chunks) (hseq : Contiguous raw) :
    OneBlockPerLabel raw (blockwise chunks raw) :=
  noStraddle_oneBlock raw _ (blockwise_no_straddle chunks raw hv hseq)

/-- composition with the blockwise plan (C02): chunk the codes and the values by the new chunks; then for every group
    `g` the global member list (original order) is the concatenation of the per-block member lists, and at most one
    block has any member of `g` – so that block's kernel sees exactly the members the eager computation sees, and no
    other block reports the group (no duplicated, partial groups) -/
theorem blockwise_after_rechunk_exact (g : Int) (chunks : List Nat) (codes : List Int) (vals : List Val)
    (hlen : codes.length = vals.length) (hv : ValidChunks codes.length chunks) (hseq : Contiguous codes) :
    members g codes vals = (blockMembers g (blockwise chunks (codes.map some)) codes vals).flatten ∧
      (blockMembers g (blockwise chunks (codes.map some)) codes vals).Pairwise (fun a b => a ≠ [] → b = []) := by
  have hv' : ValidChunks (codes.map some).length chunks := by rwa [List.length_map]
  have hvalid := blockwise_valid chunks (codes.map some) hv'
  have hns := blockwise_no_straddle chunks (codes.map some) hv'
    (contiguous_map some codes (fun _ _ _ _ h => Option.some.inj h) hseq)
  exact ⟨members_eq_flatten_blocks g _ codes vals hlen (by simpa using hvalid.2),
    blockMembers_at_most_one g _ codes vals (noStraddle_oneBlock codes _ (noStraddle_of_map some codes _ hns))⟩

example : blockMembers 1 (blockwise [2, 2, 1] ([0, 0, 0, 1, 1].map some)) [0, 0, 0, 1, 1]
    [Val.fin 1, Val.fin 2, Val.fin 3, Val.fin 4, Val.fin 5] = [[], [Val.fin 4, Val.fin 5]] := by decide +kernel

/-- the hypothesis `Contiguous` is necessary: on non-sequential labels the helper leaves a group split over two
    blocks (flox documents "this only works when the groups are sequential") -/
theorem no_straddle_needs_sequential_counterexample :
    ValidChunks 4 [2, 2] ∧ ¬ Contiguous [0, 1, 0, 1] ∧ optimal [2, 2] [0, 1, 0, 1] = [1, 3] ∧
      ¬ NoStraddle [0, 1, 0, 1] (optimal [2, 2] [0, 1, 0, 1]) := by
  refine ⟨by decide, by decide +kernel, by decide +kernel, by decide +kernel⟩

example : ValidChunks 6 [2, 2, 2] ∧ Contiguous ([0, 0, 0, 0, 1, 1] : List Nat) ∧ optimal [2, 2, 2] [0, 0, 0, 0, 1, 1] = [4, 2] := by
  refine ⟨by decide, by decide +kernel, by decide +kernel⟩

example : Contiguous ([some 7, some 7, none, none, some (-2)] : List (Option Int)) ∧
    blockwise [1, 3, 1] [some 7, some 7, none, none, some (-2)] = [2, 2, 1] ∧
    OneBlockPerLabel ([some 7, some 7, none, none, some (-2)] : List (Option Int)) [2, 2, 1] := by
  refine ⟨by decide +kernel, by decide +kernel, by decide +kernel⟩

/-- whenever the helper returns: positive chunks summing to the axis length -/
theorem cohorts_valid (old : List Nat) (labels forced : List Int) (cs : Option Nat) (ign : Bool) (new : List Nat)
    (h : cohorts old labels forced cs ign = .ok new) : ValidChunks labels.length new :=
  (cohorts_ok old labels forced cs ign new h).1

/-- position 0 and every occurrence of a forced label start a chunk -/
theorem cohorts_forced_start (old : List Nat) (labels forced : List Int) (cs : Option Nat) (ign : Bool)
    (new : List Nat) (h : cohorts old labels forced cs ign = .ok new) : ForcedStart labels forced new :=
  (cohorts_ok old labels forced cs ign new h).2.1

/-- unless told to ignore them, every old chunk boundary is kept -/
theorem cohorts_keeps_old (old : List Nat) (labels forced : List Int) (cs : Option Nat) (new : List Nat)
    (h : cohorts old labels forced cs false = .ok new) : KeepsOld old new :=
  (cohorts_ok old labels forced cs false new h).2.2 rfl

/-- the helper returns exactly when the labels have the axis length and some forced label occurs (otherwise one of the
    two `ValueError`s) -/
theorem cohorts_returns_iff (old : List Nat) (labels forced : List Int) (cs : Option Nat) (ign : Bool) :
    (∃ new, cohorts old labels forced cs ign = .ok new) ↔ (labels.length = old.sum ∧ ∃ l ∈ labels, l ∈ forced) := by
  simp only [cohorts_eq_ok_iff]
  exact ⟨fun ⟨_, hlen, hany, _⟩ => ⟨hlen, hany⟩, fun ⟨hlen, hany⟩ => ⟨_, hlen, hany, rfl⟩⟩

/-- with `ignore_old_chunks=True` old boundaries may indeed disappear (the "unless" of the property is real) -/
theorem cohorts_ignore_old_counterexample :
    cohorts [2, 2] [1, 2, 3, 4] [1] (some 4) true = .ok [4] ∧ ¬ KeepsOld [2, 2] [4] := by
  exact ⟨rfl, by decide +kernel⟩

example : cohorts [4, 4, 2] [1, 2, 3, 1, 2, 3, 4, 1, 2, 3] [1] (some 3) false = .ok [3, 1, 3, 1, 2] := rfl
example : ForcedStart ([1, 2, 3, 1, 2, 3, 4, 1, 2, 3] : List Int) [1] [3, 1, 3, 1, 2] ∧ KeepsOld [4, 4, 2] [3, 1, 3, 1, 2] := by
  constructor <;> decide +kernel

/-- `rechunk-spec` prints six bits: `decide` of `ValidChunks`, `NoStraddle`, `ForcedStart`, `KeepsOld`, and the
    recursive Boolean functions `contiguousB` and `oneBlockB` (quadratic), which decide exactly `Contiguous` (a
    statement about all index triples, with no instance by unfolding) and `OneBlockPerLabel` -/
theorem spec_contiguous_executable (labels : List (Option Int)) : contiguousB labels = true ↔ Contiguous labels :=
  contiguousB_iff labels

theorem spec_one_block_executable (labels : List (Option Int)) (chunks : List Nat) :
    oneBlockB labels chunks = true ↔ OneBlockPerLabel labels chunks :=
  oneBlockB_iff labels chunks

end Flox.C17
